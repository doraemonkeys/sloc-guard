import SlocModel.Cache
/-!
  C12 — The SLOC cache is transparent.
-/
namespace SlocModel.Props.C12
open SlocModel.Cache

variable (count sizeOf : Content → Nat)

theorem lookup_erase_ne {α : Type} (m : List (Path × α)) (p q : Path) (h : q ≠ p) :
    lookup (erase m p) q = lookup m q := by
  fun_induction erase m p with
  | case1 => rfl
  | case2 v rest p ih => rw [ih h, lookup, if_neg (Ne.symm h)]  -- the head goes: its key is `p`, not `q`
  | case3 k v rest p _ ih => rw [lookup, lookup, ih h]  -- the head stays

theorem lookup_put {α : Type} (m : List (Path × α)) (p q : Path) (v : α) :
    lookup (put m p v) q = if q = p then some v else lookup m q := by
  by_cases h : q = p
  · simp [put, lookup, h]
  · simp [put, lookup, h, Ne.symm h, lookup_erase_ne m p q h]

theorem erase_eq_filter {α : Type} (m : List (Path × α)) (p : Path) :
    erase m p = m.filter (fun x => x.1 ≠ p) := by
  fun_induction erase m p <;> simp [*]

theorem mem_erase {α : Type} {m : List (Path × α)} {p q : Path} {v : α} :
    (q, v) ∈ erase m p ↔ q ≠ p ∧ (q, v) ∈ m := by
  simp [erase_eq_filter, and_comm]

theorem mem_put {α : Type} {m : List (Path × α)} {p q : Path} {v w : α} :
    (q, w) ∈ put m p v ↔ (q = p ∧ w = v) ∨ (q ≠ p ∧ (q, w) ∈ m) := by
  simp only [put, List.mem_cons, Prod.mk.injEq, mem_erase]

structure Good (now : Nat) (fs : FS) (cache : CacheMap) : Prop where
  /-- every recorded mtime lies strictly in the past -/
  past : ∀ p e, lookup cache p = some e → e.mtime < now
  /-- an entry whose metadata matches the file on disk describes that file's content -/
  sound : ∀ p e f, lookup cache p = some e → (p, f) ∈ fs → e.mtime = f.mtime →
    e.size = sizeOf f.content → e.stats = count f.content
  /-- no file is stamped in the future -/
  stamped : ∀ p f, (p, f) ∈ fs → f.mtime ≤ now
  /-- one file per path -/
  functional : ∀ p f f', (p, f) ∈ fs → (p, f') ∈ fs → f = f'

theorem processFile_good (now : Nat) (fs : FS) (cache : CacheMap) (p : Path) (f : File)
    (hg : Good count sizeOf now fs cache) (hmem : (p, f) ∈ fs) :
    (processFile count sizeOf now cache p f).1 = count f.content ∧
    Good count sizeOf now fs (processFile count sizeOf now cache p f).2 := by
  -- a miss: the entry recorded (if any) describes `f`, the one file at `p`
  have miss : Good count sizeOf now fs
      (if f.mtime < now then put cache p ⟨f.mtime, sizeOf f.content, count f.content⟩ else cache) := by
    split
    · rename_i hlt
      refine ⟨?_, ?_, hg.stamped, hg.functional⟩
      · intro q e he
        rw [lookup_put] at he
        split at he
        · cases he; exact hlt
        · exact hg.past q e he
      · intro q e f' he hm hmt hsz
        rw [lookup_put] at he
        split at he
        · rename_i hq
          cases he; subst hq
          rw [hg.functional q f f' hmem hm]
        · exact hg.sound q e f' he hm hmt hsz
    · exact hg
  fun_cases processFile count sizeOf now cache p f
  next e hl hmatch => exact ⟨hg.sound p e f hl hmem hmatch.1 hmatch.2, hg⟩
  next => exact ⟨rfl, miss⟩
  next => exact ⟨rfl, miss⟩

/-- a whole invocation returns exactly what the uncached invocation returns -/
theorem runAll_transparent (now : Nat) (fs : FS) (sub : FS) (cache : CacheMap)
    (hg : Good count sizeOf now fs cache) (hsub : ∀ x ∈ sub, x ∈ fs) :
    (runAll count sizeOf now sub cache).1 = runUncached count sub ∧
    Good count sizeOf now fs (runAll count sizeOf now sub cache).2 := by
  induction sub generalizing cache with
  | nil => exact ⟨rfl, hg⟩
  | cons x xs ih =>
    obtain ⟨p, f⟩ := x
    have hp := processFile_good count sizeOf now fs cache p f hg (hsub (p, f) List.mem_cons_self)
    have hrest := ih (processFile count sizeOf now cache p f).2 hp.2
      (fun y hy => hsub y (List.mem_cons_of_mem _ hy))
    refine ⟨?_, hrest.2⟩
    simp only [runAll, hp.1, hrest.1]
    rfl

/-- histories without `mv` -/
def NoRename : List Op → Prop
  | [] => True
  | .rename _ _ :: _ => False
  | _ :: rest => NoRename rest

theorem noRename_cons {op : Op} {rest : List Op} :
    NoRename (op :: rest) ↔ (∀ p q, op ≠ .rename p q) ∧ NoRename rest := by
  cases op <;> simp [NoRename]

theorem step_good (w : World) (op : Op) (hg : Good count sizeOf w.now w.fs w.cache)
    (hnr : ∀ p q, op ≠ .rename p q) :
    Good count sizeOf (step count sizeOf w op).1.now (step count sizeOf w op).1.fs
      (step count sizeOf w op).1.cache := by
  cases op with
  | write p c =>
    refine ⟨hg.past, ?_, ?_, ?_⟩
    · intro q e f he hm hmt hsz
      rcases mem_put.mp hm with ⟨hq, hf⟩ | ⟨hq, hm'⟩
      · -- the file just written carries the current second: no recorded mtime equals it
        subst hf
        exact absurd (hmt ▸ hg.past q e he) (Nat.lt_irrefl _)
      · exact hg.sound q e f he hm' hmt hsz
    · intro q f hm
      rcases mem_put.mp hm with ⟨_, hf⟩ | ⟨_, hm'⟩
      · subst hf; exact Nat.le_refl _
      · exact hg.stamped q f hm'
    · intro q f f' h1 h2
      rcases mem_put.mp h1 with ⟨hq, hf⟩ | ⟨hq, hm1⟩ <;>
        rcases mem_put.mp h2 with ⟨hq', hf'⟩ | ⟨hq', hm2⟩
      · rw [hf, hf']
      · exact absurd hq hq'
      · exact absurd hq' hq
      · exact hg.functional q f f' hm1 hm2
  | delete p =>
    refine ⟨hg.past, ?_, ?_, ?_⟩
    · intro q e f he hm; exact hg.sound q e f he (mem_erase.mp hm).2
    · intro q f hm; exact hg.stamped q f (mem_erase.mp hm).2
    · intro q f f' h1 h2
      exact hg.functional q f f' (mem_erase.mp h1).2 (mem_erase.mp h2).2
  | rename p q => exact absurd rfl (hnr p q)
  | tick dt =>
    refine ⟨?_, hg.sound, ?_, hg.functional⟩
    · exact fun p e he => Nat.lt_add_right dt (hg.past p e he)
    · exact fun p f hm => Nat.le_add_right_of_le (hg.stamped p f hm)
  | dropCache =>
    exact ⟨nofun, nofun, hg.stamped, hg.functional⟩
  | run =>
    exact (runAll_transparent count sizeOf w.now w.fs w.fs w.cache hg (fun x hx => hx)).2

/-- **transparency (partial: histories without `mv`)**: for every history of writes, deletions,
    clock ticks, cache losses and invocations — including same-second, same-size rewrites right
    after a run — every invocation returns what the same invocation returns with the cache
    disabled. -/
theorem transparent_partial (w : World) (ops : List Op) (hg : Good count sizeOf w.now w.fs w.cache)
    (hnr : NoRename ops) :
    outputs count sizeOf w ops = outputsUncached count sizeOf w ops := by
  induction ops generalizing w with
  | nil => rfl
  | cons op rest ih =>
    obtain ⟨hop, hrest⟩ := noRename_cons.1 hnr
    have ih' := ih _ (step_good count sizeOf w op hg hop) hrest
    cases op with
    | run =>
      simp only [outputs, outputsUncached, step] at ih' ⊢
      rw [ih', (runAll_transparent count sizeOf w.now w.fs w.fs w.cache hg (fun x hx => hx)).1]
    | rename p q => exact absurd rfl (hop p q)
    | _ => simpa only [outputs, outputsUncached, step] using ih'

theorem transparent_from_scratch (now : Nat) (ops : List Op) (hnr : NoRename ops) :
    outputs count sizeOf ⟨[], [], now⟩ ops = outputsUncached count sizeOf ⟨[], [], now⟩ ops :=
  transparent_partial count sizeOf ⟨[], [], now⟩ ops ⟨nofun, nofun, nofun, nofun⟩ hnr

/-- the same-second, same-size rewrite that used to be served from the cache is now counted -/
example : outputs id (fun _ => 10) ⟨[], [], 100⟩ [.write 1 7, .run, .write 1 8, .run, .tick 1, .run]
    = [[(1, 7)], [(1, 8)], [(1, 8)]] := by decide +kernel

/-- The full statement (histories *with* renames) is false, of this model and of the code as it
    is: two files of equal size written in the same second and cached exchange names with `mv`
    (which preserves mtime): both entries still match and both files are reported with each
    other's counts. The witness is evaluated on the model. -/
theorem c12_rename_swap :
    let ops := [Op.write 1 7, .write 2 8, .tick 5, .run, .rename 1 3, .rename 2 1, .rename 3 2, .run]
    outputs id (fun _ => 10) ⟨[], [], 100⟩ ops ≠ outputsUncached id (fun _ => 10) ⟨[], [], 100⟩ ops := by
  decide +kernel

/-! ### a corrupt, truncated, foreign-version or half-written cache file is ignored -/

/-- `load_cache` is total and never trusts what it cannot fully validate -/
theorem load_total (decode : List Nat → Option (Nat × Nat × CacheMap)) (version hash : Nat)
    (bytes : Option (List Nat)) :
    loadCache decode version hash bytes = [] ∨
    ∃ b m, bytes = some b ∧ decode b = some (version, hash, m) ∧ loadCache decode version hash bytes = m := by
  fun_cases loadCache decode version hash bytes
  next => exact .inl rfl
  next b v h m hd hv => exact .inr ⟨b, m, rfl, hv.1 ▸ hv.2 ▸ hd, rfl⟩
  next => exact .inl rfl
  next => exact .inl rfl

/-- changing `[languages]` changes the configuration hash and therefore empties the cache -/
theorem languages_change_drops (decode : List Nat → Option (Nat × Nat × CacheMap)) (version : Nat)
    (h h' : Nat) (b : List Nat) (m : CacheMap) (hd : decode b = some (version, h, m)) (hne : h ≠ h') :
    loadCache decode version h' (some b) = [] := by
  simp [loadCache, hd, hne]

/-! ### what a cache key must be (repair 2b73ec2)

  The transparency theorems above are stated over `Path`, the identity of a file.  The code keys
  entries by a string; for the theorems to apply, equal keys must mean the same file.  A key made
  of the path as walked from the working directory does not have that property once invocations
  start in different directories; the absolute path has it. -/

/-- a walked path (segments below the working directory) seen from a working directory (segments
    below the file-system root) -/
def absKey (cwd walked : List (List Char)) : List (List Char) := cwd ++ walked
def relKey (_cwd walked : List (List Char)) : List (List Char) := walked

/-- absolute keys: equal keys, same file (same absolute location) -/
theorem absKey_identifies (c1 w1 c2 w2 : List (List Char)) (h : absKey c1 w1 = absKey c2 w2) :
    c1 ++ w1 = c2 ++ w2 := h

/-- keys relative to the working directory do not: `./b.rs` from the project root and `./b.rs`
    from `src/` are one key and two files -/
theorem relKey_collides :
    ∃ c1 w1 c2 w2, relKey c1 w1 = relKey c2 w2 ∧ c1 ++ w1 ≠ c2 ++ w2 :=
  ⟨[['p']], [['b', '.', 'r', 's']], [['p'], ['s', 'r', 'c']], [['b', '.', 'r', 's']], rfl, by decide +kernel⟩

end SlocModel.Props.C12
