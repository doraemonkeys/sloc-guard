import SlocModel.BaselineLemmas
/-!
  C10 — Ratchet only ever shrinks the baseline, and only for violations really resolved.
-/
namespace SlocModel.Props.C10
open SlocModel SlocModel.Baseline

/-- stale ⇒ recorded, evaluated in this run, and no result at that path still violates -/
theorem stale_sound (b : Base) (rs : List Res) (ev : List Key) (k : Key) (h : k ∈ stale b rs ev) :
    k ∈ b.keys ∧ ev.contains k = true ∧ ∀ r ∈ rs, r.path = k → r.violating = false :=
  mem_stale.mp h

/-- entries for paths that were not evaluated in this run are never stale — whatever narrowed
    the evaluated set (`--files`, `--diff`, `--staged`, a fail-fast short-circuit, sub-path roots) -/
theorem unevaluated_never_stale (b : Base) (rs : List Res) (ev : List Key) (k : Key)
    (h : ev.contains k = false) : k ∉ stale b rs ev :=
  fun hk => Bool.false_ne_true (h.symm.trans (mem_stale.mp hk).2.1)

/-- a still-violating (failed or grandfathered) path is never stale -/
theorem violating_never_stale (b : Base) (rs : List Res) (ev : List Key) (r : Res)
    (hr : r ∈ rs) (hv : r.violating = true) : r.path ∉ stale b rs ev :=
  fun hk => Bool.false_ne_true (((mem_stale.mp hk).2.2 r hr rfl).symm.trans hv)

/-- unevaluated entries never cause a strict failure: with only unevaluated or violating
    entries the ratchet contributes nothing to the exit code -/
theorem strict_needs_real_stale (disk : Option Base) (rs : List Res) (ev : List Key) (f : Flags)
    (rs' : List Res) (d' : Option Base) (e : Int) (st : List Key)
    (hrun : run disk rs ev f = .done rs' d' e st)
    (hnone : ∀ b, loadedOf disk f = some b →
      ∀ k ∈ b.keys, ev.contains k = false ∨ ∃ r ∈ rs', r.path = k ∧ r.violating = true) :
    st = [] ∧ e = exitCode rs' f.warnOnly f.wae false := by
  obtain ⟨_, h2, h3, _⟩ := run_done hrun
  have hst : st = [] := by
    rw [h2]
    unfold staleOf
    split
    · next b _ hl =>
      refine List.eq_nil_iff_forall_not_mem.mpr fun k hk => ?_
      rcases hnone b hl k (mem_stale.mp hk).1 with h | ⟨r, hr, hp, hv⟩
      · exact unevaluated_never_stale b rs' ev k h hk
      · exact violating_never_stale b rs' ev r hr hv (hp ▸ hk)
    · rfl
  refine ⟨hst, ?_⟩
  rw [h3, hst]; simp

/-- no run adds or rewrites an entry without `--update-baseline`: the file afterwards is a
    sub-list of the file before (same entries, same values), in every ratchet mode -/
theorem ratchet_subset (disk : Option Base) (rs : List Res) (ev : List Key) (f : Flags)
    (hu : f.update = none)
    (rs' : List Res) (d' : Option Base) (e : Int) (st : List Key)
    (hrun : run disk rs ev f = .done rs' d' e st) :
    (d' = disk) ∨ (∃ b b', disk = some b ∧ d' = some b' ∧ f.ratchet = some .auto ∧
        f.baselineGiven = true ∧ (∀ x ∈ b', x ∈ b) ∧
        (∀ x ∈ b, x ∉ b' → x.1 ∈ st)) := by
  obtain ⟨_, _, _, h4⟩ := run_done hrun
  simp only [afterUpdate, hu] at h4
  by_cases ha : f.ratchet = some .auto
  · cases hl : loadedOf disk f with
    | none => left; rw [h4, hl, afterRatchet_eq_self fun _ => rfl]
    | some b =>
      obtain ⟨hg, rfl⟩ := loadedOf_eq_some hl
      rw [hl, afterRatchet_auto ha] at h4
      refine .inr ⟨b, _, rfl, h4, ha, hg, fun x hx => (List.mem_filter.mp hx).1, fun x hx hnx => ?_⟩
      -- an entry that is gone failed the filter
      false_or_by_contra
      exact hnx (List.mem_filter.mpr ⟨hx, by simpa using ‹_›⟩)
  · left; rw [h4, afterRatchet_eq_self fun h => absurd h ha]

/-- warn and strict never write the baseline -/
theorem warn_strict_no_write (disk : Option Base) (rs : List Res) (ev : List Key) (f : Flags)
    (hu : f.update = none) (hm : f.ratchet ≠ some .auto)
    (rs' : List Res) (d' : Option Base) (e : Int) (st : List Key)
    (hrun : run disk rs ev f = .done rs' d' e st) : d' = disk := by
  rw [(run_done hrun).2.2.2, afterRatchet_eq_self fun h => absurd h hm]
  simp [afterUpdate, hu]

theorem stale_of_filtered (b : Base) (rs : List Res) (ev : List Key) :
    stale (b.filter (fun e => !(stale b rs ev).contains e.1)) rs ev = [] := by
  refine List.eq_nil_iff_forall_not_mem.mpr fun k hk => ?_
  obtain ⟨hkeys, hev, hviol⟩ := mem_stale.mp hk
  obtain ⟨x, hx, rfl⟩ := List.mem_map.mp hkeys
  obtain ⟨hxb, hxn⟩ := List.mem_filter.mp hx
  have : x.1 ∈ stale b rs ev := mem_stale.mpr ⟨List.mem_map.mpr ⟨x, hxb, rfl⟩, hev, hviol⟩
  simp [this] at hxn

/-- the rerun grandfathers with the tightened baseline, and staleness does not depend on what is
    grandfathered (`stale_grandfather`) -/
theorem auto_then_clean_gen {b : Base} {rs : List Res} {ev : List Key} {f : Flags}
    (hg : f.baselineGiven = true) (ha : f.ratchet = some .auto) (hu : f.update = none)
    {rs1 rs2 : List Res} {d1 d2 : Option Base} {e1 e2 : Int} {st1 st2 : List Key}
    (h1 : run (some b) rs ev f = .done rs1 d1 e1 st1)
    (h2 : run d1 rs ev f = .done rs2 d2 e2 st2) : st2 = [] := by
  obtain ⟨hr1, hs1, _, hd1⟩ := run_done h1
  obtain ⟨hr2, hs2, _, _⟩ := run_done h2
  have hl : ∀ d, loadedOf d f = d := fun d => by simp [loadedOf, hg]
  simp only [hl, afterUpdate, hu, afterRatchet_auto ha] at hr1 hs1 hd1 hr2 hs2
  simp only [hs2, hd1, hr2, hs1, hr1, staleOf, ha, stale_grandfather]
  exact stale_of_filtered b rs ev

/-- after an auto tightening a rerun on the same state (the same `rs` and `ev`) finds nothing
    stale; the hypothesis `hsame` is not needed (`auto_then_clean_gen`) -/
theorem auto_then_clean (b : Base) (rs : List Res) (ev : List Key) (f : Flags)
    (hg : f.baselineGiven = true) (ha : f.ratchet = some .auto) (hu : f.update = none)
    (rs1 : List Res) (d1 : Option Base) (e1 : Int) (st1 : List Key)
    (h1 : run (some b) rs ev f = .done rs1 d1 e1 st1)
    (hsame : ∀ b', d1 = some b' → grandfather (some b') rs = rs1)
    (rs2 : List Res) (d2 : Option Base) (e2 : Int) (st2 : List Key)
    (h2 : run d1 rs ev f = .done rs2 d2 e2 st2) : st2 = [] :=
  auto_then_clean_gen hg ha hu h1 h2

def exBase : Base := [(['a'], .content 12), (['b'], .content 9), (['s'], .structure true 4)]
def exRs : List Res := [⟨['c'], .passed, .content, 3⟩]

/-- `--ratchet auto --files c`: only `c` was evaluated, nothing is removed -/
example : (match run (some exBase) exRs [['c']] ⟨true, none, some .auto, false, false⟩ with
    | .done _ d _ st => decide (d = some exBase) && decide (st = [])
    | _ => false) = true := by decide +kernel
/-- a full scan in which `b` now passes removes exactly `b` -/
example : (match run (some exBase) [⟨['a'], .failed, .content, 12⟩, ⟨['b'], .passed, .content, 2⟩,
      ⟨['s'], .failed, .files, 4⟩] [['a'], ['b'], ['s']] ⟨true, none, some .auto, false, false⟩ with
    | .done _ d _ st => decide (d = some [(['a'], .content 12), (['s'], .structure true 4)]) && decide (st = [['b']])
    | _ => false) = true := by decide +kernel

end SlocModel.Props.C10
