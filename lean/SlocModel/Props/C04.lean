import SlocModel.Props.C02
/-!
  C04 — Comments and blank lines never change the code count.
  Insertion / deletion of a line is a statement about the fold of `processLine` over the line
  list: if the inserted line leaves the per-file state untouched, every other line keeps its class.
-/
namespace SlocModel.Props.C04
open SlocModel SlocModel.Counter SlocModel.Props.C02

/-- the fold of `count` without the ignore-file test: classes and final state -/
def run (syn : Syntax) : List (List Char) → St → List LineClass × St
  | [], st => ([], st)
  | l :: ls, st =>
    let (c, st') := processLine syn l st
    let (cs, st'') := run syn ls st'
    (c :: cs, st'')

theorem run_append (syn : Syntax) (a b : List (List Char)) (st : St) :
    run syn (a ++ b) st =
      ((run syn a st).1 ++ (run syn b (run syn a st).2).1, (run syn b (run syn a st).2).2) := by
  induction a generalizing st with
  | nil => simp [run]
  | cons l ls ih => simp [run, ih]

theorem run_length (syn : Syntax) (ls : List (List Char)) (st : St) :
    (run syn ls st).1.length = ls.length := by
  induction ls generalizing st with
  | nil => rfl
  | cons l ls ih => simp [run, ih]

/-- `run` is `Runs` read as a function -/
theorem runs_run (syn : Syntax) (ls : List (List Char)) (st : St)
    (h : ∀ l ∈ ls, hasIgnoreFile syn l = false) :
    Runs syn ls st (run syn ls st).1 (run syn ls st).2 := by
  induction ls generalizing st with
  | nil => exact .nil st
  | cons l ls ih =>
    rw [List.forall_mem_cons] at h
    exact .cons rfl h.1 (ih _ h.2)

/-- when no line carries an ignore-file directive, `count`'s loop is `run` -/
theorem classifyLines_eq_run (syn : Syntax) (ls : List (List Char)) (seen : Nat) (st : St)
    (h : ∀ l ∈ ls, hasIgnoreFile syn l = false) :
    classifyLines syn ls seen st = some (run syn ls st).1 :=
  (runs_run syn ls st h).classify_all seen

def codeCount (cs : List LineClass) : Nat := (cs.filter (· = .code)).length

theorem codeCount_append (a b : List LineClass) : codeCount (a ++ b) = codeCount a + codeCount b := by
  simp [codeCount]

theorem codeCount_cons_of_ne {c : LineClass} (h : c ≠ .code) (cs : List LineClass) :
    codeCount (c :: cs) = codeCount cs := by
  simp [codeCount, h]

/-- Inserting a line that leaves the state untouched changes no other line's class. -/
theorem insert_state_neutral (syn : Syntax) (pre post : List (List Char)) (l : List Char)
    (st : St) (cls : LineClass)
    (hneutral : processLine syn l (run syn pre st).2 = (cls, (run syn pre st).2)) :
    (run syn (pre ++ l :: post) st).1 =
      (run syn (pre ++ post) st).1.take pre.length ++
        cls :: (run syn (pre ++ post) st).1.drop pre.length := by
  rw [run_append, run_append, run, hneutral]
  simp [run_length]

/-- the same for a whole file without ignore-file directive; a line that is not code leaves the
    code count as it is -/
theorem insert_invariant (syn : Syntax) (pre post : List (List Char)) (l : List Char)
    (cls : LineClass) (hfile : ∀ x ∈ pre ++ l :: post, hasIgnoreFile syn x = false)
    (hneutral : processLine syn l (run syn pre {}).2 = (cls, (run syn pre {}).2))
    (hcls : cls ≠ .code) :
    ∃ before after,
      classifyLines syn (pre ++ post) 0 {} = some before ∧
      classifyLines syn (pre ++ l :: post) 0 {} = some after ∧
      after = before.take pre.length ++ cls :: before.drop pre.length ∧
      codeCount after = codeCount before := by
  have hfile' : ∀ x ∈ pre ++ post, hasIgnoreFile syn x = false := fun x hx =>
    hfile x (List.mem_append.mpr ((List.mem_append.mp hx).imp_right (List.mem_cons_of_mem l)))
  have hins := insert_state_neutral syn pre post l {} cls hneutral
  refine ⟨_, _, classifyLines_eq_run syn _ 0 {} hfile', classifyLines_eq_run syn _ 0 {} hfile,
    hins, ?_⟩
  rw [hins, codeCount_append, codeCount_cons_of_ne hcls _, ← codeCount_append, List.take_append_drop]

/-- **blank lines**: inserting (or deleting) a whitespace-only line anywhere outside a block
    comment and outside ignore regions leaves every other line's class, hence the code count,
    unchanged — for every syntax and every file without an ignore-file directive -/
theorem blank_insert_invariant (syn : Syntax) (pre post : List (List Char)) (l : List Char)
    (hfile : ∀ x ∈ pre ++ l :: post, hasIgnoreFile syn x = false)
    (hc : Counting (run syn pre {}).2) (hml : (run syn pre {}).2.ml.isIn = false)
    (hb : trim l = []) :
    ∃ before after,
      classifyLines syn (pre ++ post) 0 {} = some before ∧
      classifyLines syn (pre ++ l :: post) 0 {} = some after ∧
      after = before.take pre.length ++ .blank :: before.drop pre.length ∧
      codeCount after = codeCount before :=
  insert_invariant syn pre post l .blank hfile (blank_is_blank syn l _ hc hml hb) (by decide)

/-- **comment lines (partial)**: the same for a whole-line line comment `ws ++ prefix ++ text`
    *provided no block-comment start is found on it* and it is not a directive.  The text may
    contain quotes, escapes, closers, anything else. -/
theorem comment_insert_invariant_partial (syn : Syntax) (pre post : List (List Char))
    (l : List Char)
    (hfile : ∀ x ∈ pre ++ l :: post, hasIgnoreFile syn x = false)
    (hc : Counting (run syn pre {}).2) (hml : (run syn pre {}).2.ml.isIn = false)
    (hne : (trim l).isEmpty = false) (hlc : isSingleLineComment syn (trim l) = true)
    (hnd : NoDirective syn l) (hNoOpener : findMultiLineStart syn l = none) :
    ∃ before after,
      classifyLines syn (pre ++ post) 0 {} = some before ∧
      classifyLines syn (pre ++ l :: post) 0 {} = some after ∧
      after = before.take pre.length ++ .comment :: before.drop pre.length ∧
      codeCount after = codeCount before :=
  insert_invariant syn pre post l .comment hfile
    (line_comment_is_comment syn l _ hc hml hnd hne hNoOpener hlc) (by decide)

/-- The unrestricted statement ("whatever text follows the comment prefix, including …
    block-comment openers") is false of the code as it is: inserting `// see src/*.rs` between two
    Rust functions turns the second one into a comment and lowers the code count. -/
theorem c04_opener_in_comment_fails :
    let pre := ["fn a() {}".toList]
    let post := ["fn b() {}".toList]
    let l := "// see src/*.rs".toList
    classifyLines rustSyn (pre ++ post) 0 {} = some [.code, .code] ∧
    classifyLines rustSyn (pre ++ l :: post) 0 {} = some [.code, .comment, .comment] := by
  char_lists; decide +kernel

/-- non-vacuity: a quote-laden comment body satisfies the hypotheses of the partial theorem -/
example : findMultiLineStart rustSyn "// don't \"quote\" */ ]] it's".toList = none ∧
    isSingleLineComment rustSyn (trim "// don't \"quote\" */ ]] it's".toList) = true := by char_lists; decide +kernel

end SlocModel.Props.C04
