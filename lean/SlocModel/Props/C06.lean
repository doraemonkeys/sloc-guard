import SlocModel.Structure
import SlocModel.Basic.LastMatch
import SlocModel.Basic.Literals
/-!
  C06 — Directory counts are exact; structure limits come from the last matching rule.
-/
namespace SlocModel.Props.C06
open SlocModel SlocModel.Structure

theorem checkCount_limited {m : Metric} {a : Nat} {l : Int} (hl : l ≠ Generated.unlimited)
    {abs : Option Int} {p g : Option Nat} :
    checkCount m a (some l) abs p g =
      if a > asUsize l then some ⟨m, .failed, a, asUsize l⟩
      else if a ≥ warnFrom l abs p g then some ⟨m, .warning, a, asUsize l⟩ else none :=
  if_neg hl

/-- a directory fails iff the figure exceeds the limit; −1 disables the limit -/
theorem count_failed_iff (m : Metric) (a : Nat) (l : Int) (abs : Option Int) (p g : Option Nat)
    (hl : l ≠ Generated.unlimited) :
    (∃ f, checkCount m a (some l) abs p g = some f ∧ f.severity = .failed) ↔ a > asUsize l := by
  rw [checkCount_limited hl]
  by_cases h : a > asUsize l
  · simp [h]
  · by_cases h2 : a ≥ warnFrom l abs p g <;> simp [h, h2]

/-- warned iff within the limit and at or above the warn point: an absolute warn count is
    inclusive, a percentage warns above the rounded-up share of the limit -/
theorem count_warning_iff (m : Metric) (a : Nat) (l : Int) (abs : Option Int) (p g : Option Nat)
    (hl : l ≠ Generated.unlimited) :
    (∃ f, checkCount m a (some l) abs p g = some f ∧ f.severity = .warning) ↔
      a ≤ asUsize l ∧ a ≥ warnFrom l abs p g := by
  rw [checkCount_limited hl]
  by_cases h : a > asUsize l
  · simp [h, Nat.not_le.mpr h]
  · by_cases h2 : a ≥ warnFrom l abs p g <;> simp [h, h2, Nat.not_lt.mp h]

theorem warnFrom_absolute (l a : Int) (p g : Option Nat) : warnFrom l (some a) p g = asUsize a := rfl

theorem warnFrom_percentage (l : Int) (p g : Option Nat) :
    warnFrom l none p g = warnLimit l none p g + 1 := rfl

/-- precedence of the warn settings: per-metric percentage, then rule/global percentage,
    then the default 0.8 from the source -/
theorem warnLimit_precedence (l : Int) (p t : Nat) :
    warnLimit l none (some p) (some t) = pctOf l p ∧
    warnLimit l none none (some t) = pctOf l t ∧
    warnLimit l none none none = pctOf l Generated.defaultStructWarnBits :=
  ⟨rfl, rfl, rfl⟩

/-- −1 disables a limit; an unset limit checks nothing -/
theorem unlimited_checks_nothing (m : Metric) (a : Nat) (abs : Option Int) (p g : Option Nat) :
    checkCount m a (some Generated.unlimited) abs p g = none ∧ checkCount m a none abs p g = none := by
  simp [checkCount]

/-- 0 forbids any entry -/
theorem zero_forbids_any (m : Metric) (a : Nat) (abs : Option Int) (p g : Option Nat) (h : 0 < a) :
    checkCount m a (some 0) abs p g = some ⟨m, .failed, a, 0⟩ := by
  rw [checkCount_limited (by decide)]
  exact if_pos h

/-! ### limits come from the last declared matching rule, unset fields inherit -/

theorem lastMatching_none_iff (rules : List (Rule × Bool)) :
    lastMatching rules 0 none = none ↔ ∀ x ∈ rules, x.2 = false := by
  rw [lastMatching_eq, lastSat_eq_none]

/-- the rule consulted is the last declared one whose scope matches the directory -/
theorem last_rule_wins (rules : List (Rule × Bool)) (i : Nat) (r : Rule) :
    lastMatching rules 0 none = some (i, r) ↔
      rules[i]? = some (r, true) ∧ ∀ j, i < j → ∀ x, rules[j]? = some x → x.2 = false := by
  rw [lastMatching_eq, lastSat_eq_some]
  constructor
  · rintro ⟨_, ⟨_, m⟩, ⟨hx, hp, hl⟩, e⟩
    cases e; cases hp
    exact ⟨hx, hl⟩
  · rintro ⟨hx, hl⟩
    exact ⟨i, (r, true), ⟨hx, rfl, hl⟩, rfl⟩

/-- unset fields of the winning rule inherit the global values, field by field -/
theorem field_inheritance (g : Fields) (rules : List (Rule × Bool)) (i : Nat) (r : Rule)
    (h : lastMatching rules 0 none = some (i, r)) :
    (resolveLimits g rules).fields = inherit r.fields g ∧
    (resolveLimits g rules).rule = some i ∧
    (resolveLimits g rules).relativeDepth = r.relativeDepth ∧
    (resolveLimits g rules).baseDepth = r.baseDepth := by
  simp [resolveLimits, h]

theorem no_rule_uses_globals (g : Fields) (rules : List (Rule × Bool))
    (h : lastMatching rules 0 none = none) :
    (resolveLimits g rules).fields = g ∧ (resolveLimits g rules).rule = none ∧
    (resolveLimits g rules).relativeDepth = false := by
  simp [resolveLimits, h]

theorem inherit_field (r g : Fields) :
    (inherit r g).maxFiles = (match r.maxFiles with | some x => some x | none => g.maxFiles) ∧
    (inherit r g).maxDirs = (match r.maxDirs with | some x => some x | none => g.maxDirs) ∧
    (inherit r g).maxDepth = (match r.maxDepth with | some x => some x | none => g.maxDepth) := by
  unfold inherit orElse
  exact ⟨by cases r.maxFiles <;> rfl, by cases r.maxDirs <;> rfl, by cases r.maxDepth <;> rfl⟩

/-- relative depth is measured from the scope's fixed prefix -/
theorem relative_depth_def (l : Limits) (d : Nat) :
    effectiveDepth l d = if l.relativeDepth then d - l.baseDepth else d := rfl

/-- the fixed prefix = the path components before the first one holding `* ? [ {` -/
theorem base_depth_examples :
    calculateBaseDepth "src/features/**".toList = 2 ∧ calculateBaseDepth "src/*/deep".toList = 1 ∧
    calculateBaseDepth "**".toList = 0 ∧ calculateBaseDepth "a/b/c".toList = 3 ∧
    calculateBaseDepth "/a//b/{x,y}/z".toList = 2 ∧ calculateBaseDepth "a\\b?\\c".toList = 1 := by
  char_lists; decide +kernel

theorem baseDepth_plain_components (cs : List (List Char))
    (h : ∀ c ∈ cs, c.isEmpty = false ∧ c.any isGlobMeta = false) : baseDepthOf cs = cs.length := by
  induction cs with
  | nil => rfl
  | cons c rest ih =>
    have hc := h c List.mem_cons_self
    simp [baseDepthOf, hc.1, hc.2, ih (fun x hx => h x (List.mem_cons_of_mem _ hx))]

/-- `explain` reports the limits and the rule `check` applies -/
theorem explain_coherent_dir (g : Fields) (rules : List (Rule × Bool)) :
    (explain g rules).rule = (resolveLimits g rules).rule ∧
    (explain g rules).maxFiles = (resolveLimits g rules).fields.maxFiles ∧
    (explain g rules).maxDirs = (resolveLimits g rules).fields.maxDirs ∧
    (explain g rules).maxDepth = (resolveLimits g rules).fields.maxDepth :=
  ⟨rfl, rfl, rfl, rfl⟩

/-! ### the scanner's counts are the true counts -/

/-- is the entry yielded by the walker, given the directories pruned so far? -/
def yielded (pruned : List Nat) (e : Entry) : Bool :=
  !(e.ignored || (match e.parent with
    | some p => pruned.contains p
    | none => false))

def prunedAfter (pruned : List Nat) (e : Entry) : List Nat :=
  if e.kind = .dir && (!yielded pruned e || e.scannerExcluded) then e.id :: pruned else pruned

/-- an immediate regular file of `d` that counts -/
def countsAsFile (pruned : List Nat) (d : Nat) (e : Entry) : Bool :=
  yielded pruned e && e.kind = .file && !e.scannerExcluded && !e.countExcluded && e.parent = some d

/-- an immediate sub-directory of `d` that counts -/
def countsAsDir (pruned : List Nat) (d : Nat) (e : Entry) : Bool :=
  yielded pruned e && e.kind = .dir && !e.scannerExcluded && !e.countExcluded && decide (e.depth > 0) &&
    e.parent = some d

/-- declarative count along the walk -/
def countWith (pred : List Nat → Nat → Entry → Bool) (d : Nat) : List Nat → List Entry → Nat
  | _, [] => 0
  | pr, e :: es => (if pred pr d e then 1 else 0) + countWith pred d (prunedAfter pr e) es

theorem step_pruned (s : ScanState) (e : Entry) : (step s e).pruned = prunedAfter s.pruned e := by
  unfold step prunedAfter yielded
  -- `step` tests the negation of `yielded`: as one opaque flag it leaves only closed cases
  generalize (e.ignored || match e.parent with
    | some p => s.pruned.contains p
    | none => false) = hidden
  cases hidden
  · cases e.kind
    · cases e.scannerExcluded <;> cases e.countExcluded <;> cases e.parent <;> rfl
    · cases e.scannerExcluded <;> rfl
    · rfl
  · cases e.kind <;> rfl

def filesOf (st : List (Nat × DirStats)) (d : Nat) : Nat := ((getStats st d).map (·.files)).getD 0
def dirsOf (st : List (Nat × DirStats)) (d : Nat) : Nat := ((getStats st d).map (·.dirs)).getD 0

theorem getStats_setStats (st : List (Nat × DirStats)) (d d' : Nat) (v : DirStats) :
    getStats (setStats st d v) d' = if d = d' then some v else getStats st d' := by
  induction st with
  | nil => rfl
  | cons x xs ih =>
    by_cases hd : d = d'
    · subst hd
      by_cases hk : x.1 = d <;> simp [setStats, getStats, ih, hk]
    · by_cases hk : x.1 = d <;> simp [setStats, getStats, ih, hk, hd]

/-- the counter that `bump … isFile` raises -/
def cnt (isFile : Bool) (st : List (Nat × DirStats)) (d : Nat) : Nat :=
  if isFile then filesOf st d else dirsOf st d

theorem cnt_bump (b b' : Bool) (st : List (Nat × DirStats)) (p cd d : Nat) :
    cnt b (bump st p cd b') d = cnt b st d + (if b = b' ∧ p = d then 1 else 0) := by
  unfold cnt filesOf dirsOf bump
  rw [getStats_setStats]
  by_cases hd : p = d
  · subst hd
    simp only [and_true, if_true]
    cases getStats st p <;> cases b <;> cases b' <;> rfl
  · simp [hd]

/-- a directory's own record starts at zero: creating it changes no count -/
theorem cnt_ensureDir (b : Bool) (st : List (Nat × DirStats)) (i depth d : Nat) :
    cnt b (ensureDir st i depth) d = cnt b st d := by
  unfold ensureDir
  cases hg : getStats st i with
  | some _ => rfl
  | none =>
    unfold cnt filesOf dirsOf
    rw [getStats_setStats]
    by_cases hd : i = d
    · subst hd; cases b <;> simp [hg]
    · simp [hd]

theorem step_cnt (b : Bool) (s : ScanState) (e : Entry) (d : Nat) :
    cnt b (step s e).stats d = cnt b s.stats d +
      (if (if b then countsAsFile s.pruned d e else countsAsDir s.pruned d e) then 1 else 0) := by
  unfold step countsAsFile countsAsDir yielded
  -- one opaque flag, as in `step_pruned`
  generalize (e.ignored || match e.parent with
    | some p => s.pruned.contains p
    | none => false) = hidden
  cases hidden
  · cases e.kind
    · -- a regular file bumps its parent, unless it is excluded or a scan root
      cases e.scannerExcluded
      · cases e.countExcluded
        · cases e.parent with
          | none => simp
          | some p => simp [cnt_bump]
        · simp
      · simp
    · -- a directory gets its own record, then bumps its parent, unless it is excluded or a scan root
      cases e.scannerExcluded
      · cases e.countExcluded
        · cases e.parent with
          | none => simp [cnt_ensureDir]
          | some p => by_cases hd : 0 < e.depth <;> simp [hd, cnt_bump, cnt_ensureDir]
        · simp [cnt_ensureDir]
      · simp
    · simp
  · cases e.kind <;> simp

theorem step_files (s : ScanState) (e : Entry) (d : Nat) :
    filesOf (step s e).stats d = filesOf s.stats d + (if countsAsFile s.pruned d e then 1 else 0) :=
  step_cnt true s e d

theorem step_dirs (s : ScanState) (e : Entry) (d : Nat) :
    dirsOf (step s e).stats d = dirsOf s.stats d + (if countsAsDir s.pruned d e then 1 else 0) :=
  step_cnt false s e d

/-- the induction over the walk, apart from what is counted: `obs` is any figure read off the
    statistics and `pred` says when an entry adds one to it; only the one-step equation `hstep`
    and `step_pruned` are used, so both counters share it -/
theorem walk_exact (obs : List (Nat × DirStats) → Nat → Nat) (pred : List Nat → Nat → Entry → Bool)
    (hstep : ∀ s e d, obs (step s e).stats d = obs s.stats d + (if pred s.pruned d e then 1 else 0))
    (es : List Entry) (s : ScanState) (d : Nat) :
    obs (es.foldl step s).stats d = obs s.stats d + countWith pred d s.pruned es := by
  induction es generalizing s with
  | nil => rfl
  | cons e es ih => rw [List.foldl_cons, ih, hstep, step_pruned, countWith, Nat.add_assoc]

/-- **counts are exact (files)**: after the walk, the file figure of every directory is the
    number of its immediate regular files that the walker yields and that are neither
    scanner-excluded nor count-excluded -/
theorem counts_exact_files (es : List Entry) (d : Nat) :
    filesOf (walk es).stats d = countWith countsAsFile d [] es :=
  (walk_exact filesOf countsAsFile step_files es ⟨[], []⟩ d).trans (Nat.zero_add _)

/-- **counts are exact (sub-directories)** -/
theorem counts_exact_dirs (es : List Entry) (d : Nat) :
    dirsOf (walk es).stats d = countWith countsAsDir d [] es :=
  (walk_exact dirsOf countsAsDir step_dirs es ⟨[], []⟩ d).trans (Nat.zero_add _)

/-- hidden, ignored, excluded, count-excluded and non-regular entries contribute nothing -/
theorem not_counted (pr : List Nat) (d : Nat) (e : Entry)
    (h : e.ignored = true ∨ e.kind = .other ∨ e.scannerExcluded = true ∨ e.countExcluded = true ∨
         (∃ p, e.parent = some p ∧ p ∈ pr)) :
    countsAsFile pr d e = false ∧ countsAsDir pr d e = false := by
  unfold countsAsFile countsAsDir yielded
  rcases h with h | h | h | h | ⟨p, h, hc⟩ <;> simp [*]

def exTree : List Entry :=
  [ ⟨0, none, 0, .dir, false, false, false⟩,          -- src
    ⟨1, some 0, 1, .file, false, false, false⟩,        -- src/a.rs
    ⟨2, some 0, 1, .file, false, false, true⟩,         -- src/README.md   (count-excluded)
    ⟨3, some 0, 1, .dir, false, true, false⟩,          -- src/vendor      (scanner-excluded)
    ⟨4, some 3, 2, .file, false, false, false⟩,        -- src/vendor/v.rs (below a pruned dir)
    ⟨5, some 0, 1, .dir, false, false, false⟩,         -- src/util
    ⟨6, some 5, 2, .other, false, false, false⟩,       -- src/util/link   (symlink)
    ⟨7, some 5, 2, .file, true, false, false⟩ ]        -- src/util/x.log  (git-ignored)

example : (walk exTree).stats = [(0, ⟨1, 1, 0⟩), (5, ⟨0, 0, 1⟩)] := by decide +kernel
example : checkDir ⟨some 10, none, none, none, some 4, none, none, none⟩ [] ⟨4, 0, 0⟩
    = [⟨.files, .warning, 4, 10⟩] := by decide +kernel

end SlocModel.Props.C06
