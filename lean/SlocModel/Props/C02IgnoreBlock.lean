import SlocModel.Props.C02Ignore
/-!
  C02, token level — `ignore-start` / `ignore-end` in the C-family grammar: the two directive
  lines are comments, exactly the enclosed single-line chunks are ignored.
-/
namespace SlocModel.Props.C02
open SlocModel SlocModel.Counter

/-- a whole-line line comment carrying `ignore-start` (and not `ignore-end`) -/
def startOk (l : List Char) : Bool :=
  l.all lineChar && isSingleLineComment cSyn (trim l) &&
    !containsSub Generated.ignoreEndDirective (trim l) &&
    containsSub Generated.ignoreStartDirective (trim l) &&
    !containsSub Generated.ignoreFileDirective (trim l)

/-- a whole-line line comment carrying `ignore-end` -/
def endOk (l : List Char) : Bool :=
  l.all lineChar && isSingleLineComment cSyn (trim l) &&
    containsSub Generated.ignoreEndDirective (trim l) &&
    !containsSub Generated.ignoreFileDirective (trim l)

theorem start_line (l : List Char) (h : startOk l = true) :
    processLine cSyn l st0 = (.comment, { inIgnoreBlock := true }) ∧
      hasIgnoreFile cSyn l = false := by
  simp only [startOk, Bool.and_eq_true, Bool.not_eq_true'] at h
  obtain ⟨⟨⟨⟨_, h2⟩, h3⟩, h4⟩, h5⟩ := h
  exact ⟨(ignore_start_end cSyn l st0 h2).2 (by simp [hasDirective, h3])
    (by simp [hasDirective, h4, h2]), by simp [hasIgnoreFile, hasDirective, h5]⟩

theorem end_line (l : List Char) (h : endOk l = true) :
    processLine cSyn l { inIgnoreBlock := true } = (.comment, st0) ∧
      hasIgnoreFile cSyn l = false := by
  simp only [endOk, Bool.and_eq_true, Bool.not_eq_true'] at h
  obtain ⟨⟨⟨_, h2⟩, h3⟩, h5⟩ := h
  exact ⟨(ignore_start_end cSyn l _ h2).1 (by simp [hasDirective, h3, h2]),
    by simp [hasIgnoreFile, hasDirective, h5]⟩

/-- **`ignore-start … ignore-end`**: the directive lines are comments, exactly the enclosed lines
    are ignored, and the counter is back in its initial state behind the region -/
theorem ignore_region_run (s e : List Char) (vs : List Chunk) (hs : startOk s = true)
    (he : endOk e = true) (hvs : vs.all (fun v => v.isSingle && v.ok) = true)
    (rest : List (List Char)) (seen : Nat) :
    classifyLines cSyn (s :: (vs.map Chunk.line ++ e :: rest)) seen st0 =
      (classifyLines cSyn rest (seen + (vs.length + 2)) st0).map
        ((LineClass.comment :: (vs.map (fun _ => LineClass.ignored) ++ [LineClass.comment])) ++ ·) := by
  obtain ⟨hp1, hi1⟩ := start_line s hs
  obtain ⟨hp2, hi2⟩ := end_line e he
  have := (Runs.cons hp1 hi1 ((inBlock_runs (singles_neutral vs hvs)).append
    (.single hp2 hi2))).classify rest seen
  simpa [List.map_map, Function.comp_def, Nat.add_assoc] using this

/-- non-vacuity, checked by evaluation as well -/
example :
    let s := "// sloc-guard:ignore-start".toList
    let e := "  // sloc-guard:ignore-end".toList
    let vs : List Chunk := [.code [.word "int b;".toList] none, .blank [], .lineComment [] " x".toList]
    startOk s = true ∧ endOk e = true ∧ vs.all (fun v => v.isSingle && v.ok) = true ∧
    classifyLines cSyn (s :: (vs.map Chunk.line ++ e :: ["int z;".toList])) 0 st0 =
      some [.comment, .ignored, .ignored, .ignored, .comment, .code] := by char_lists; decide +kernel

end SlocModel.Props.C02
