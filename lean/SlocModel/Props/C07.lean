import SlocModel.Placement
import SlocModel.Siblings
import SlocModel.Basic.LastMatch
import SlocModel.Basic.ListLemmas
import SlocModel.Basic.Literals
/-!
  C07 — Placement rules (deny / allow / naming / siblings) flag exactly the offending entries.
-/
namespace SlocModel.Props.C07
open SlocModel.Placement SlocModel.Siblings

theorem selectRule_none_iff {α : Type} (scope : α → Bool) (rules : List α) :
    selectRule scope rules 0 none = none ↔ ∀ x ∈ rules, scope x = false := by
  rw [selectRule_eq, lastSat_eq_none]

/-- the rule consulted for an entry is the last declared rule whose scope matches -/
theorem rule_selection_is_last {α : Type} (scope : α → Bool) (rules : List α) (i : Nat) (r : α) :
    selectRule scope rules 0 none = some (i, r) ↔
      rules[i]? = some r ∧ scope r = true ∧ ∀ j, i < j → ∀ x, rules[j]? = some x → scope x = false := by
  rw [selectRule_eq, lastSat_eq_some]
  exact ⟨fun ⟨_, _, h, e⟩ => by cases e; exact h, fun h => ⟨i, r, h, rfl⟩⟩

/-- what the global level says about a file, given the selected rule -/
def globalVerdict (g : FileGlobalBits) (sel : Option (Nat × FileRuleBits)) : Option FileFinding :=
  if g.hasAllowlist then (if !g.allowMatch then some (.disallowed .global) else none)
  else if g.denyMatch && !(match sel with
      | some (_, r) => r.hasAllowlist && r.allowMatch
      | none => false) then some (.denied .global) else none

/-- **characterisation**: a file is reported iff, in this order: the global allowlist misses it;
    else a global deny list hits it and no scoped allowlist of the selected rule covers it; else a
    deny list of the selected rule hits it; else the selected rule's allowlist misses it; else its
    name violates the selected rule's naming pattern.  A file gets at most one finding (the result
    is an `Option`). -/
theorem file_reported_iff (g : FileGlobalBits) (rules : List FileRuleBits) :
    checkFile g rules =
      match globalVerdict g (selectRule (·.scopeMatches) rules 0 none) with
      | some f => some f
      | none =>
        match selectRule (·.scopeMatches) rules 0 none with
        | none => none
        | some (i, r) =>
          if r.denyMatch then some (.denied (.rule i))
          else if r.hasAllowlist && !r.allowMatch then some (.disallowed (.rule i))
          else if r.hasNaming && !r.namingOk then some (.naming (.rule i))
          else none := by
  -- the definition tests `!overridden && g.denyMatch`, `globalVerdict` the same the other way round
  unfold checkFile globalVerdict
  rw [Bool.and_comm g.denyMatch]
  rfl

theorem globalVerdict_origin {g : FileGlobalBits} {sel : Option (Nat × FileRuleBits)} {f : FileFinding}
    (h : globalVerdict g sel = some f) : f = .disallowed .global ∨ f = .denied .global := by
  revert h
  fun_cases globalVerdict g sel <;> intro h <;> cases h
  next => exact Or.inl rfl  -- the global allowlist misses the file
  next => exact Or.inr rfl  -- a global deny pattern hits it

theorem deny_beats_allow_same_rule (g : FileGlobalBits) (rules : List FileRuleBits) (i : Nat)
    (r : FileRuleBits) (hsel : selectRule (·.scopeMatches) rules 0 none = some (i, r))
    (hglobal : globalVerdict g (some (i, r)) = none) (hdeny : r.denyMatch = true) :
    checkFile g rules = some (.denied (.rule i)) := by
  rw [file_reported_iff, hsel, hglobal]
  exact if_pos hdeny

/-- a scope's allowlist entry overrides a global deny -/
theorem scoped_allow_overrides_global_deny (g : FileGlobalBits) (rules : List FileRuleBits)
    (i : Nat) (r : FileRuleBits) (hsel : selectRule (·.scopeMatches) rules 0 none = some (i, r))
    (hg : g.hasAllowlist = false) (hal : r.hasAllowlist = true) (ham : r.allowMatch = true) :
    checkFile g rules ≠ some (.denied .global) := by
  have hgv : globalVerdict g (some (i, r)) = none := by simp [globalVerdict, hg, hal, ham]
  rw [file_reported_iff, hsel, hgv]
  dsimp only
  rw [hal, ham]
  -- whatever the rule says has origin `.rule i`
  cases r.denyMatch <;> cases (r.hasNaming && !r.namingOk) <;> nofun

/-- extension / name / pattern lists combine by OR -/
theorem lists_combine_by_or (h : ListHits) :
    h.any = true ↔ h.ext = true ∨ h.file = true ∨ h.pattern = true := by
  simp only [ListHits.any, Bool.or_eq_true, or_assoc]

/-- naming is checked only for otherwise permitted files -/
theorem naming_only_if_permitted (g : FileGlobalBits) (rules : List FileRuleBits) (i : Nat)
    (r : FileRuleBits) (hsel : selectRule (·.scopeMatches) rules 0 none = some (i, r))
    (h : checkFile g rules = some (.naming (.rule i))) :
    r.denyMatch = false ∧ (r.hasAllowlist = true → r.allowMatch = true) ∧
      globalVerdict g (some (i, r)) = none := by
  rw [file_reported_iff, hsel] at h
  cases hgv : globalVerdict g (some (i, r)) with
  | some f =>
    rw [hgv] at h; cases h
    rcases globalVerdict_origin hgv with h' | h' <;> cases h'
  | none =>
    rw [hgv] at h
    dsimp only at h
    cases hd : r.denyMatch
    · refine ⟨rfl, fun hal => ?_, rfl⟩
      cases ham : r.allowMatch
      · rw [hd, hal, ham] at h; cases h
      · rfl
    · rw [hd] at h; cases h

theorem nothing_permitted_is_reported (g : FileGlobalBits) (rules : List FileRuleBits)
    (hglobal : globalVerdict g (selectRule (·.scopeMatches) rules 0 none) = none)
    (hrule : ∀ i r, selectRule (·.scopeMatches) rules 0 none = some (i, r) →
      r.denyMatch = false ∧ (r.hasAllowlist = true → r.allowMatch = true) ∧
      (r.hasNaming = true → r.namingOk = true)) :
    checkFile g rules = none := by
  rw [file_reported_iff, hglobal]
  cases hsel : selectRule (·.scopeMatches) rules 0 none with
  | none => rfl
  | some p =>
    obtain ⟨i, r⟩ := p
    obtain ⟨h1, h2, h3⟩ := hrule i r hsel
    dsimp only
    rw [if_neg (by simp [h1]),
      if_neg (by cases hal : r.hasAllowlist <;> simp [h2, hal]),
      if_neg (by cases hn : r.hasNaming <;> simp [h3, hn])]

/-- a directory receives at most three findings: a global path-pattern deny, a global basename
    deny, and one from the selected rule -/
theorem dir_reports_le_three (g : DirGlobalBits) (rules : List DirRuleBits) :
    (checkDirPlacement g rules).length ≤ 3 := by
  have one : ∀ {c : Prop} [Decidable c] {a : DirFinding}, (if c then [a] else []).length ≤ 1 :=
    List.length_ite_le (Nat.le_refl 1) (Nat.zero_le 1)
  unfold checkDirPlacement
  rw [List.length_append]
  refine Nat.add_le_add (?_ : _ ≤ 2) (?_ : _ ≤ 1)
  · exact List.length_ite_le (Nat.le_succ_of_le one) (List.length_ite_le (Nat.zero_le 2)
      (by rw [List.length_append]; exact Nat.add_le_add one one))
  · cases selectRule (·.scopeMatches) rules 0 none with
    | none => exact Nat.zero_le 1
    | some p => exact List.length_ite_le one one

/-- a scope's `allow_dirs` entry overrides the global directory deny lists -/
theorem dir_scoped_allow_overrides_global_deny (g : DirGlobalBits) (rules : List DirRuleBits)
    (i : Nat) (r : DirRuleBits) (hsel : selectRule (·.scopeMatches) rules 0 none = some (i, r))
    (hg : g.hasDirAllowlist = false) (hal : r.hasDirAllowlist = true) (ham : r.dirAllowMatch = true) :
    checkDirPlacement g rules = [] := by
  simp [checkDirPlacement, hsel, hg, hal, ham]

/-- a directed rule requires each templated companion of a matching file: template `t` is
    reported for the file iff its companion name is absent from the directory -/
theorem directed_sibling_iff (dir : List (List Char)) (name : List Char)
    (templates : List (List Char)) (t : List Char) :
    t ∈ directedMissing dir name templates ↔
      t ∈ templates ∧ replaceStem t (fileStem name) ∉ dir := by
  simp [directedMissing, List.mem_filter]

theorem minByKey_of_all_eq {α : Type} {key : α → Nat} {l : List α} {s : α} (hne : l ≠ [])
    (hall : ∀ x ∈ l, x = s) : minByKey key l = some s := by
  induction l with
  | nil => exact absurd rfl hne
  | cons x xs ih =>
    rw [minByKey, hall x List.mem_cons_self]
    cases xs with
    | nil => rfl
    | cons y ys =>
      rw [ih (List.cons_ne_nil _ _) (fun z hz => hall z (List.mem_cons_of_mem _ hz))]
      exact if_pos (Nat.le_refl _)

/-- group rule, one stem: if every pattern that matches the file name yields the same stem `s`,
    the rule reports exactly the members missing for `s` — a finding iff some member is missing -/
theorem group_unambiguous (dir : List (List Char)) (name : List Char) (patterns : List (List Char))
    (s : List Char) (hne : patterns.filterMap (extractStem name) ≠ [])
    (hall : ∀ x ∈ patterns.filterMap (extractStem name), x = s) :
    groupMissing dir name patterns = some (missingFor dir patterns s) := by
  rw [groupMissing, minByKey_of_all_eq hne hall]

theorem group_finding_iff (dir : List (List Char)) (patterns : List (List Char)) (s : List Char) :
    missingFor dir patterns s ≠ [] ↔ ∃ p ∈ patterns, replaceStem p s ∉ dir := by
  simp [missingFor, List.filter_eq_nil_iff]

/-- The unrestricted group statement ("violated exactly when some but not all members exist for
    a stem") is false of the implemented heuristic when a file name matches several patterns: with
    `a.tsx, a.test.tsx, a.test.test.tsx` the stem `a.test.test` has one member of two, yet nothing
    is reported (the best-stem minimisation picks the complete stem `a.test`). -/
theorem c07_group_ambiguous_stem :
    let dir := ["a.tsx".toList, "a.test.tsx".toList, "a.test.test.tsx".toList]
    let group := ["{stem}.tsx".toList, "{stem}.test.tsx".toList]
    groupMissing dir "a.test.test.tsx".toList group = some [] ∧
    missingFor dir group "a.test.test".toList = ["{stem}.test.tsx".toList] := by
  char_lists; decide +kernel

example : checkFile ⟨false, ⟨false, false, false⟩, ⟨true, false, false⟩⟩
    [⟨true, true, ⟨false, true, false⟩, ⟨false, false, false⟩, false, true⟩] = none := by decide +kernel
example : checkFile ⟨false, ⟨false, false, false⟩, ⟨false, false, false⟩⟩
    [⟨true, false, ⟨false, false, false⟩, ⟨true, false, false⟩, false, true⟩,
     ⟨true, true, ⟨false, false, false⟩, ⟨false, false, false⟩, false, true⟩]
    = some (.disallowed (.rule 1)) := by decide +kernel
example : extractStem "Button.test.tsx".toList "{stem}.test.tsx".toList = some "Button".toList := by
  char_lists; decide +kernel
example : replaceStem "{stem}.test.tsx".toList "Button".toList = "Button.test.tsx".toList := by
  char_lists; decide +kernel
example : fileStem "a.test.tsx".toList = "a.test".toList ∧ fileStem ".env".toList = ".env".toList := by
  char_lists; decide +kernel

end SlocModel.Props.C07
