import SlocModel.BaselineLemmas
/-!
  C11 — Fail-fast and parallelism never change the verdict.

  A fail-fast run under any number of workers and any processing order is summarised by the
  set of files that were processed.  Every set a run can produce is `admissible` (files are
  skipped only after some processed file set the flag: `seq_admissible`, `par_admissible`; the
  converse is not claimed); theorems quantify over all admissible sets, hence over every schedule.
-/
namespace SlocModel.Props.C11
open SlocModel SlocModel.Baseline

/-- processing fewer files can only remove results -/
theorem processed_sub (files : List Res) (mask : List Bool) : ∀ r ∈ processed files mask, r ∈ files := by
  intro r hr
  obtain ⟨p, hp, hpr⟩ := List.mem_filterMap.mp hr
  split at hpr
  · cases hpr; exact (List.of_mem_zip hp).1
  · cases hpr

theorem any_processed (files : List Res) (mask : List Bool) (p : Res → Bool) :
    (processed files mask).any p = (files.zip mask).any (fun q => q.2 && p q.1) := by
  rw [processed, List.any_filterMap]
  exact congrArg _ (funext fun q => by cases q.2 <;> rfl)

theorem processed_all (files : List Res) (mask : List Bool) (hlen : mask.length = files.length)
    (hall : mask.all id = true) : processed files mask = files := by
  induction files generalizing mask with
  | nil => cases mask <;> rfl
  | cons x xs ih =>
    cases mask with
    | nil => cases hlen
    | cons m ms =>
      simp only [List.all_cons, Bool.and_eq_true, id] at hall
      rw [hall.1]
      exact congrArg (x :: ·) (ih ms (Nat.succ.inj hlen) hall.2)

theorem admissible_iff (loaded : Option Base) (files : List Res) (mask : List Bool) :
    admissible loaded files mask = true ↔ mask.length = files.length ∧
      (mask.all id = true ∨ (processed files mask).any (triggers loaded) = true) := by
  simp only [admissible, any_processed, Bool.and_eq_true, decide_eq_true_eq, Bool.or_eq_true]

theorem any_triggers_processed {loaded : Option Base} {files : List Res}
    {mask : List Bool} (h : admissible loaded files mask = true) :
    (processed files mask).any (triggers loaded) = files.any (triggers loaded) := by
  obtain ⟨hlen, hall | htrig⟩ := (admissible_iff loaded files mask).mp h
  · rw [processed_all files mask hlen hall]
  · obtain ⟨r, hr, ht⟩ := List.any_eq_true.mp htrig
    rw [htrig, List.any_eq_true.mpr ⟨r, processed_sub files mask r hr, ht⟩]

/-- does the (grandfathered) result list contain an un-grandfathered failure? -/
def hasFailure (loaded : Option Base) (rs : List Res) : Bool :=
  (grandfather loaded rs).any (fun x => decide (x.status = .failed))

/-- **the verdict does not depend on the schedule**: for every admissible processed set, the
    run finds an un-grandfathered failure among the processed files iff the full run does -/
theorem failure_independent_of_schedule (loaded : Option Base) (files : List Res)
    (mask : List Bool) (h : admissible loaded files mask = true) :
    hasFailure loaded (processed files mask) = hasFailure loaded files := by
  simp only [hasFailure, any_failed_grandfather, any_triggers_processed h]

/-- without fail-fast every file is processed: the result list is the input list, in input
    order, for every thread count (rayon's `collect` preserves order) -/
theorem no_ff_deterministic (files : List Res) (mask : List Bool)
    (hlen : mask.length = files.length) (hall : mask.all id = true) :
    processed files mask = files := processed_all files mask hlen hall

/-- a line-count result whose path the loaded baseline records does not set the fail-fast flag,
    so meeting a grandfathered failure first does not stop the run before a real one is found -/
theorem grandfathered_does_not_trigger (b : Base) (r : Res) (h : b.contains r.path = true)
    (hk : r.kind = .content) : triggers (some b) r = false := by
  simp [triggers, h, hk, Kind.recordable]

/-- The exit code with and without fail-fast, for every schedule. Warnings as errors make no
    difference: files are skipped only after a trigger, which forces 1 on both sides. The strict
    ratchet's bit may differ once a file was skipped (fewer results are evaluated then), and then
    need not agree. -/
theorem exit_independent_gen {loaded : Option Base} {files : List Res} {mask : List Bool}
    (h : admissible loaded files mask = true) (warnOnly wae rf₁ rf₂ : Bool)
    (hrf : mask.all id = true → rf₁ = rf₂) :
    exitCode (grandfather loaded (processed files mask)) warnOnly wae rf₁ =
    exitCode (grandfather loaded files) warnOnly wae rf₂ := by
  obtain ⟨hlen, hall | htrig⟩ := (admissible_iff loaded files mask).mp h
  · rw [processed_all files mask hlen hall, hrf hall]
  · simp only [exitCode_grandfather, ← any_triggers_processed h, htrig, Bool.true_or]

/-- exit code (warnings aside) is the same with and without fail-fast for every schedule -/
theorem exit_independent (loaded : Option Base) (files : List Res) (mask : List Bool)
    (h : admissible loaded files mask = true) (warnOnly rf : Bool) :
    exitCode (grandfather loaded (processed files mask)) warnOnly false rf =
    exitCode (grandfather loaded files) warnOnly false rf :=
  exit_independent_gen h warnOnly false rf rf fun _ => rfl

/-! ### every schedule produces an admissible set -/

/-- the sequential schedule for an input order: process until the first trigger, inclusive -/
def seqMask (loaded : Option Base) : List Res → List Bool
  | [] => []
  | r :: rs => true :: (if triggers loaded r then rs.map (fun _ => false) else seqMask loaded rs)

/-- Parallel workers: a trace is a list of events; worker steps are "load flag", "process
    file i", "store flag".  Abstractly: a file is skipped only if, when its worker loaded the
    flag, the flag was already set — and the flag is only ever set after a triggering file
    was processed.  `ParRun` captures exactly that; the list is in the order in which the
    workers load the flag. -/
inductive ParRun (loaded : Option Base) : List Res → Bool → List Bool → Prop where
  | nil (flag : Bool) : ParRun loaded [] flag []
  /-- the worker saw the flag unset (or read it before it was set): the file is processed;
      afterwards the flag may be set if this or an earlier processed file triggers -/
  | proc (r : Res) (rs : List Res) (flag flag' : Bool) (ms : List Bool) :
      (flag' = true → flag = true ∨ triggers loaded r = true) →
      ParRun loaded rs flag' ms → ParRun loaded (r :: rs) flag (true :: ms)
  /-- the worker saw the flag set: the file is skipped -/
  | skip (r : Res) (rs : List Res) (ms : List Bool) :
      ParRun loaded rs true ms → ParRun loaded (r :: rs) true (false :: ms)

theorem parRun_inv {loaded : Option Base} {files : List Res} {flag : Bool} {mask : List Bool}
    (h : ParRun loaded files flag mask) :
    mask.length = files.length ∧ (mask.all id = true ∨ flag = true ∨
      (files.zip mask).any (fun p => p.2 && triggers loaded p.1) = true) := by
  induction h with
  | nil => exact ⟨rfl, .inl rfl⟩
  | proc r rs flag flag' ms hflag _ ih =>
    refine ⟨by simp [ih.1], ?_⟩
    rcases ih.2 with h | h | h
    · left; simpa using h
    · rcases hflag h with h' | h'
      · right; left; exact h'
      · right; right; simp [h']
    · right; right; simp [h]
  | skip r rs ms _ ih => exact ⟨by simp [ih.1], .inr (.inl rfl)⟩

/-- every interleaving of any number of workers (flag initially unset) yields an admissible set -/
theorem par_admissible (loaded : Option Base) (files : List Res) (mask : List Bool)
    (h : ParRun loaded files false mask) : admissible loaded files mask = true := by
  obtain ⟨hlen, h1 | h1 | h1⟩ := parRun_inv h
  · simp [admissible, hlen, h1]
  · cases h1
  · simp [admissible, hlen, h1]

theorem parRun_skip_all (loaded : Option Base) (rs : List Res) :
    ParRun loaded rs true (rs.map fun _ => false) := by
  induction rs with
  | nil => exact .nil true
  | cons r rs ih => exact .skip r rs _ ih

/-- the one-worker schedule is one of the interleavings -/
theorem seq_parRun (loaded : Option Base) (files : List Res) :
    ParRun loaded files false (seqMask loaded files) := by
  induction files with
  | nil => exact .nil false
  | cons r rs ih =>
    unfold seqMask
    split
    · rename_i ht; exact .proc r rs false true _ (fun _ => .inr ht) (parRun_skip_all loaded rs)
    · exact .proc r rs false false _ (fun h => by cases h) ih

/-- every one-worker schedule yields an admissible set -/
theorem seq_admissible (loaded : Option Base) (files : List Res) :
    admissible loaded files (seqMask loaded files) = true :=
  par_admissible loaded files _ (seq_parRun loaded files)

/-! ### non-vacuity: the grandfathered-first scenario -/
def exBase : Base := [(['a'], .content 12)]
def exFiles : List Res := [⟨['a'], .failed, .content, 12⟩, ⟨['b'], .failed, .content, 9⟩]

/-- `a` is grandfathered and met first: it does not stop the run, `b` is still processed -/
example : seqMask (some exBase) exFiles = [true, true] := by decide +kernel
example : exitCode (grandfather (some exBase) (processed exFiles (seqMask (some exBase) exFiles)))
    false false false = 1 := by decide +kernel
/-- stopping after `a` is *not* admissible -/
example : admissible (some exBase) exFiles [true, false] = false := by decide +kernel

end SlocModel.Props.C11
