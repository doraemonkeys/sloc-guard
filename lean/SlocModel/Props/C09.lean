import SlocModel.BaselineLemmas
import SlocModel.Props.C11
/-!
  C09 — Baseline round trip and non-masking: grandfathering never hides a new violation.
  (Statements about `SlocModel.Baseline`, the model of the repaired pipeline; the three
  defects the harness reproduced on the pinned code are recorded as `fixed` findings.)
-/
namespace SlocModel.Props.C09
open SlocModel SlocModel.Baseline

/-- a result whose path is not recorded passes the baseline unchanged, so a failed one stays
    failed through the whole pipeline … -/
theorem unrecorded_stays_failed {disk : Option Base} {rs : List Res} {ev : List Key} {f : Flags}
    {r : Res} (hr : r ∈ rs) (hnot : ∀ b, disk = some b → b.contains r.path = false)
    {rs' : List Res} {d' : Option Base} {e : Int} {st : List Key}
    (hrun : run disk rs ev f = .done rs' d' e st) : r ∈ rs' := by
  rw [(run_done hrun).1]
  exact mem_grandfather_of_not_masks hr (masks_loadedOf_eq_false hnot)

/-- … and makes the run exit 1 whatever the other flags, unless `--warn-only` -/
theorem non_masking (disk : Option Base) (rs : List Res) (ev : List Key) (f : Flags)
    (r : Res) (hr : r ∈ rs) (hf : r.status = .failed)
    (hnot : ∀ b, disk = some b → b.contains r.path = false) (hwo : f.warnOnly = false)
    (rs' : List Res) (d' : Option Base) (e : Int) (st : List Key)
    (hrun : run disk rs ev f = .done rs' d' e st) :
    r ∈ rs' ∧ e = Generated.exitThreshold := by
  refine run_of_triggers hr ?_ hwo hrun
  simp [triggers_eq, hf, masks_loadedOf_eq_false hnot]

/-- **a violation of a kind the baseline cannot record is never grandfathered**, whatever
    entries the baseline holds — in particular not by the entry of another violation on the same
    path (a denied file whose line-count violation is recorded) -/
theorem other_kind_never_masked (rs : List Res) (b : Base) (r : Res) (hr : r ∈ rs)
    (hk : r.kind = .otherStructure) : r ∈ apply rs b :=
  mem_grandfather_of_not_masks (loaded := some b) hr (by simp [masks, hk, Kind.recordable])

/-- … and it makes the run exit 1, whatever the baseline and the other flags (unless
    `--warn-only`) -/
theorem other_kind_exits_one (disk : Option Base) (rs : List Res) (ev : List Key) (f : Flags)
    (r : Res) (hr : r ∈ rs) (hf : r.status = .failed) (hk : r.kind = .otherStructure)
    (hwo : f.warnOnly = false)
    (rs' : List Res) (d' : Option Base) (e : Int) (st : List Key)
    (hrun : run disk rs ev f = .done rs' d' e st) : e = Generated.exitThreshold := by
  refine (run_of_triggers hr ?_ hwo hrun).2
  cases loadedOf disk f <;> simp [triggers, hf, hk, Kind.recordable]

/-! ### what an update records -/

/-- every violating (failed *or* grandfathered) baselinable result is recorded by an `all`
    update -/
theorem update_all_records (rs : List Res) (existing : Option Base) (r : Res) (hr : r ∈ rs)
    (hv : r.violating = true) (hk : r.kind ≠ .otherStructure) :
    (update .all rs existing).contains r.path = true :=
  foldl_updateStep_records hr hv (Kind.recordable_iff.mpr hk) fun _ => .inl rfl

/-- `--update-baseline new` never drops an entry of the baseline it loaded -/
theorem new_mode_superset (rs : List Res) (existing : Base) (k : Key)
    (h : existing.contains k = true) : (update .new rs (some existing)).contains k = true :=
  foldl_updateStep_keeps h

/-- the content / structure modes keep the loaded entries of the *other* kind -/
theorem partial_modes_keep_other_kind (rs : List Res) (existing : Base) (k : Key) (e : Entry)
    (hmem : (k, e) ∈ existing) :
    (e.isStructure = true → (update .content rs (some existing)).contains k = true) ∧
    (e.isStructure = false → (update .structure rs (some existing)).contains k = true) := by
  -- an entry the update starts from is still there at the end
  have keep : ∀ mode, (k, e) ∈ updateStart mode existing →
      (update mode rs (some existing)).contains k = true :=
    fun mode hm => foldl_updateStep_keeps (List.any_eq_true.mpr ⟨(k, e), hm, by simp⟩)
  exact ⟨fun hs => keep .content (List.mem_filter.mpr ⟨hmem, hs⟩),
    fun hs => keep .structure (List.mem_filter.mpr ⟨hmem, by simp [hs]⟩)⟩

/-- **an update is never cut short**: with `--update-baseline` fail-fast is off, so every file
    is processed and an `all` update records every violating recordable result of the project
    state, whatever the flag or the configuration says about fail-fast -/
theorem update_run_records_everything (ff : Bool) (f : Flags) (m : UpdateMode)
    (hu : f.update = some m) (files : List Res) (mask : List Bool)
    (hlen : mask.length = files.length)
    (hadm : effectiveFailFast ff f = false → mask.all id = true)
    (r : Res) (hr : r ∈ files) (hv : r.violating = true) (hk : r.kind ≠ .otherStructure)
    (existing : Option Base) :
    (update .all (processed files mask) existing).contains r.path = true := by
  rw [C11.no_ff_deterministic files mask hlen (hadm (by simp [effectiveFailFast, hu]))]
  exact update_all_records files existing r hr hv hk

/-! ### updating twice

  A second run on the unchanged project sees the same results, except that the baseline it loads
  has turned some `failed` into `grandfathered`. -/

/-- **an update does not depend on which violations the loaded baseline grandfathers** -/
theorem update_ignores_grandfathering (mode : UpdateMode) (rs : List Res) (b : Base)
    (existing : Option Base) : update mode (apply rs b) existing = update mode rs existing :=
  update_grandfather (some b) rs mode existing

/-- **`--update-baseline` twice**: on the unchanged project a second whole update gives the first
    one's baseline, whether the existing baseline is loaded (its entries grandfather the results
    and are the `existing` argument) or not -/
theorem update_all_idempotent (rs : List Res) (first : Option Base) :
    let b1 := update .all rs first
    update .all (apply rs b1) (some b1) = b1 ∧ update .all rs none = b1 :=
  -- an `all` update starts from the empty baseline whatever exists
  ⟨update_ignores_grandfathering .all rs _ _, rfl⟩

theorem update_new_eq_self (rs : List Res) (b : Base)
    (h : ∀ r ∈ rs, r.violating = true → r.kind ≠ .otherStructure → b.contains r.path = true) :
    update .new rs (some b) = b := by
  show rs.foldl (updateStep .new) b = b
  induction rs with
  | nil => rfl
  | cons x xs ih =>
    have hstep : updateStep .new b x = b := by
      unfold updateStep
      by_cases hv : x.violating = true
      · by_cases hk : x.kind = .otherStructure
        · simp [hv, entryOf, hk]
        · simp [hv, includes, h x (by simp) hv hk]
      · simp [hv]
    rw [List.foldl_cons, hstep]
    exact ih fun r hr => h r (List.mem_cons_of_mem x hr)

/-- **`--update-baseline new` twice**: the second add-only update of the unchanged project, with
    the first one's baseline loaded, changes nothing -/
theorem update_new_idempotent (rs : List Res) (b0 : Base) :
    let b1 := update .new rs (some b0)
    update .new (apply rs b1) (some b1) = b1 := by
  intro b1
  rw [update_ignores_grandfathering]
  refine update_new_eq_self rs b1 fun r hr hv hk => ?_
  -- the first update recorded `r` or found its path recorded
  exact foldl_updateStep_records hr hv (Kind.recordable_iff.mpr hk) fun acc => by
    cases h : acc.contains r.path <;> simp [includes, h]

theorem masks_update_all (rs : List Res) (existing : Option Base) (r : Res) (hr : r ∈ rs)
    (hf : r.status = .failed) (hk : r.kind ≠ .otherStructure) :
    masks (some (update .all rs existing)) r = true := by
  simp [masks, Kind.recordable_iff.mpr hk,
    update_all_records rs existing r hr (by simp [Res.violating, hf]) hk]

/-- after `--update-baseline` on a fresh file, a baseline check of the unchanged state
    grandfathers every recorded line-count, file-count and subdirectory-count violation -/
theorem round_trip_fresh (rs : List Res) (r : Res) (hr : r ∈ rs) (hf : r.status = .failed)
    (hk : r.kind ≠ .otherStructure) :
    { r with status := .grandfathered } ∈ apply rs (update .all rs none) := by
  show _ ∈ grandfather (some _) rs
  rw [grandfather_eq_map]
  exact List.mem_map.mpr ⟨r, hr, by simp [grandfatherOne, hf, masks_update_all rs none r hr hf hk]⟩

/-- … and then exits 0 unless a violation of another kind, or a warning under
    warnings-as-errors, remains -/
theorem round_trip_exit (rs : List Res) (wae : Bool)
    (hother : ∀ r ∈ rs, r.status = .failed → r.kind ≠ .otherStructure)
    (hwarn : wae = true → ∀ r ∈ rs, r.status ≠ .warning) :
    exitCode (apply rs (update .all rs none)) false wae false = Generated.exitSuccess := by
  have hfail : rs.any (triggers (some (update .all rs none))) = false :=
    List.any_eq_false.mpr fun r hr => by
      rw [triggers_eq]
      by_cases hf : r.status = .failed
      · simp [masks_update_all rs none r hr hf (hother r hr hf)]
      · simp [hf]
  have hnowarn : (wae && rs.any (·.status = .warning)) = false := by
    cases wae with
    | false => rfl
    | true => exact List.any_eq_false.mpr fun r hr => by simpa using hwarn rfl r hr
  show exitCode (grandfather (some _) rs) false wae false = _
  rw [exitCode_grandfather, hfail, hnowarn]; rfl

def exRs : List Res :=
  [⟨['a'], .failed, .content, 12⟩, ⟨['b'], .passed, .content, 3⟩, ⟨['s'], .failed, .files, 4⟩,
   ⟨['d'], .failed, .otherStructure, 1⟩]

/-- updating again with the written baseline loaded yields the same baseline (idempotent) -/
example :
    let b1 := update .all exRs none
    update .all (apply exRs b1) (some b1) = b1 := by decide +kernel

/-- `--update-baseline new` **without `--baseline`** does not even load the default file it
    is about to overwrite: existing entries are dropped (known finding, see known_findings.json) -/
theorem c09_new_mode_without_flag_drops :
    let disk : Base := [(['o', 'l', 'd'], .content 9)]
    let f : Flags := ⟨false, some .new, none, false, false⟩
    (match run (some disk) exRs [] f with
     | .done _ (some d) _ _ => d.contains ['o', 'l', 'd']
     | _ => true) = false := by decide +kernel

end SlocModel.Props.C09
