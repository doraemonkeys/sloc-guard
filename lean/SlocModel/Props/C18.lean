import SlocModel.Remote
import SlocModel.Props.C13
/-!
  C18 — Remote configuration integrity and fetch policy.
  All statements hold for every hash function `sha` (no property of SHA-256 is used).
-/
namespace SlocModel.Props.C18
open SlocModel SlocModel.Remote

variable (sha : Content → Hash)

/-- a fetch goes to the network or is answered without it: then the cache is left alone and a
    content that takes effect has the hash asked for -/
theorem fetch_fresh_or_local (p : Policy) (hash : Option Hash) (c : Cache) (s : Server) (root : Bool) :
    fetch sha p hash c s root = fetchFresh sha hash c s root ∨
    ((fetch sha p hash c s root).cache = c ∧
      ∀ x, (fetch sha p hash c s root).result = .ok x → ∀ h, hash = some h → sha x = h) := by
  fun_cases fetch sha p hash c s root
  next => exact .inr ⟨rfl, fun x hx h' e => by cases hx; cases e; rfl⟩  -- cached, has the hash asked for
  next => exact .inr ⟨rfl, nofun⟩  -- cached with another hash, offline
  next => exact .inl rfl
  next => exact .inr ⟨rfl, fun _ _ _ e => by cases e⟩  -- cached, no hash asked for
  next => exact .inr ⟨rfl, nofun⟩  -- nothing cached, offline
  next => exact .inl rfl

/-- when `extends_sha256` is given, the content that takes effect has exactly that hash, whether it
    came from the cache or from the network -/
theorem hash_respected (p : Policy) (h : Hash) (c : Cache) (s : Server) (root : Bool) (x : Content)
    (hr : (fetch sha p (some h) c s root).result = .ok x) : sha x = h := by
  rcases fetch_fresh_or_local sha p (some h) c s root with e | ⟨_, hv⟩
  · rw [e] at hr
    unfold fetchFresh at hr
    cases s with
    | err => cases hr
    | ok body =>
      simp only at hr
      split at hr
      · cases hr; assumption
      · cases hr
  · exact hv x hr h rfl

/-- the cache only ever changes to a freshly fetched body, and — when a hash is given — only to a
    body with that hash: content with a different hash is never written to the cache -/
theorem mismatch_never_cached (p : Policy) (hash : Option Hash) (c : Cache) (s : Server) (root : Bool)
    (hne : (fetch sha p hash c s root).cache ≠ c) :
    ∃ body, s = .ok body ∧ (fetch sha p hash c s root).cache = .present body 0 ∧
      (∀ h, hash = some h → sha body = h) ∧ (fetch sha p hash c s root).result = .ok body := by
  rcases fetch_fresh_or_local sha p hash c s root with e | ⟨e, _⟩
  · rw [e] at hne ⊢
    revert hne
    fun_cases fetchFresh sha hash c s root
    · exact fun hne => absurd rfl hne  -- network error
    · cases root  -- the body has the hash asked for
      · exact fun hne => absurd rfl hne
      · exact fun _ => ⟨_, rfl, rfl, fun _ => Option.some.inj, rfl⟩
    · exact fun hne => absurd rfl hne  -- the body has another hash
    · cases root  -- no hash asked for
      · exact fun hne => absurd rfl hne
      · exact fun _ => ⟨_, rfl, rfl, nofun, rfl⟩
  · exact absurd e hne

/-- a failed or rejected fetch leaves the cache exactly as it was -/
theorem failed_fetch_keeps_cache (p : Policy) (hash : Option Hash) (c : Cache) (s : Server) (root : Bool)
    (e : Err) (he : (fetch sha p hash c s root).result = .error e) :
    (fetch sha p hash c s root).cache = c := by
  by_cases hne : (fetch sha p hash c s root).cache = c
  · exact hne
  · obtain ⟨body, _, _, _, hok⟩ := mismatch_never_cached sha p hash c s root hne
    rw [hok] at he; cases he

/-- the offline policy never contacts the network and fails on a cache miss -/
theorem offline_no_network (hash : Option Hash) (c : Cache) (s : Server) (root : Bool) :
    (fetch sha .offline hash c s root).requests = 0 ∧
    (readCache .offline c root = none → (fetch sha .offline hash c s root).result = .error .offlineMiss) := by
  unfold fetch
  cases hc : readCache .offline c root with
  | none => simp
  | some cached =>
    cases hash with
    | none => simp
    | some h => simp only; split <;> simp

/-- the refresh policy never reads the cache: result and request count do not depend on it -/
theorem refresh_ignores_cache (hash : Option Hash) (c c' : Cache) (s : Server) (root : Bool) :
    (fetch sha .forceRefresh hash c s root).result = (fetch sha .forceRefresh hash c' s root).result ∧
    (fetch sha .forceRefresh hash c s root).requests = (fetch sha .forceRefresh hash c' s root).requests := by
  have miss : ∀ c, readCache .forceRefresh c root = none := fun c => by cases root <;> rfl
  simp only [fetch, miss, reduceCtorEq, if_false]
  cases s with
  | err => exact ⟨rfl, rfl⟩
  | ok body =>
    cases hash with
    | none => exact ⟨rfl, rfl⟩
    | some h => by_cases hs : sha body = h <;> simp [fetchFresh, hs]

/-- the normal policy uses a cached copy only within its lifetime (`CACHE_TTL_SECS`, regenerated
    from the source: one hour) -/
theorem normal_ttl (x : Content) (age : Nat) :
    readCache .normal (.present x age) true = (if age < Generated.cacheTtlSecs then some x else none) ∧
    Generated.cacheTtlSecs = 3600 := by
  constructor
  · simp [readCache]
  · rfl

theorem normal_uses_fresh_cache (x : Content) (age : Nat) (s : Server) (h : age < Generated.cacheTtlSecs) :
    (fetch sha .normal none (.present x age) s true).result = .ok x ∧
    (fetch sha .normal none (.present x age) s true).requests = 0 := by
  simp [fetch, readCache, h]

/-- nothing in the cache contradicts the expected hash `h`: it is empty or holds content with
    that hash, whatever its age -/
def Clean (h : Hash) (c : Cache) : Prop :=
  match c with
  | .absent => True
  | .present x _ => sha x = h

theorem fetch_keeps_clean (p : Policy) (h : Hash) (c : Cache) (s : Server) (root : Bool)
    (hc : Clean sha h c) : Clean sha h (fetch sha p (some h) c s root).cache := by
  by_cases hne : (fetch sha p (some h) c s root).cache = c
  · rw [hne]; exact hc
  · obtain ⟨body, _, hcache, hh, _⟩ := mismatch_never_cached sha p (some h) c s root hne
    rw [hcache]; exact hh h rfl

/-- over any sequence of fetches sharing one cache with a constant expected hash: a cache that
    is absent or holds content of that hash stays so (no fetch, failed or not, can poison it) -/
theorem sequence_invariant (h : Hash) (root : Bool) (c : Cache) (steps : List (Policy × Server × Nat))
    (hc : Clean sha h c) : Clean sha h (fetchSeq sha (some h) root c steps) := by
  induction steps generalizing c with
  | nil => exact hc
  | cons st rest ih =>
    obtain ⟨p, s, dt⟩ := st
    exact ih _ (fetch_keeps_clean sha p h _ s root (by cases c <;> exact hc))

/-- an interrupted fetch never leaves a cache entry a later run would trust wrongly: the cache
    file is written with the atomic save protocol, so after a kill at any point it is the previous
    entry or the complete verified body (repaired: it used to be a plain create + write) -/
theorem interrupted_fetch_cache (prior : Option AtomicWrite.Content) (body : AtomicWrite.Content)
    (p : AtomicWrite.Point) (k : Nat) :
    (AtomicWrite.crashAt prior body p k).target = prior ∨
    (AtomicWrite.crashAt prior body p k).target = some body :=
  C13.crash_safe prior body p k

example : (fetch id .normal (some 7) (.present 3 10) (.ok 7) true).cache = .present 7 0 := by decide +kernel
example : (fetch id .normal (some 7) (.present 3 10) (.ok 9) true).cache = .present 3 10 := by decide +kernel
example : (fetch id .offline none .absent (.ok 7) true).requests = 0 := by decide +kernel

end SlocModel.Props.C18
