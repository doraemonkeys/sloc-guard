import SlocModel.Concurrency
import SlocModel.Basic.ListLemmas
/-!
  C14 — Concurrent invocations neither corrupt nor lose persisted state.

  Statements about `SlocModel.Concurrency`, for **every schedule** (any interleaving of the
  processes' steps, any number of processes, lock attempts timing out at any moment).

  Each is read off an invariant of single steps: `AInv` (append protocol), `FInv` (contents and
  the name) and `LockInv` (locks). A step replaces the record of one process and at most one inode,
  so preservation splits, by `List.forall_set`, into the process that moves and the others.
-/
namespace SlocModel.Props.C14
open SlocModel SlocModel.Concurrency

theorem arun_inv {w : Bool} {I : AS → Prop} (hstep : ∀ {s s' p t}, I s → astep w s p t = some s' → I s')
    {s : AS} (sched : List (Pid × Bool)) (hi : I s) : I (arun w s sched) := by
  induction sched generalizing s with
  | nil => exact hi
  | cons x rest ih =>
    unfold arun
    cases h : astep w s x.1 x.2 with
    | none => exact ih hi
    | some s' => exact ih (hstep hi h)

theorem frun_inv {I : FS → Prop} (hstep : ∀ {s s' p t}, I s → fstep s p t = some s' → I s')
    {s : FS} (sched : List (Pid × Bool)) (hi : I s) : I (frun s sched) := by
  induction sched generalizing s with
  | nil => exact hi
  | cons x rest ih =>
    unfold frun
    cases h : fstep s x.1 x.2 with
    | none => exact ih hi
    | some s' => exact ih (hstep hi h)

/-! ### the append protocol with the update lock: no recorded snapshot is ever lost -/

def inCS (pc : APC) : Prop := pc = .load ∨ pc = .save ∨ pc = .release

/-- what the invariant says of process `q`, given the entries `recs` appended so far -/
structure AOk (recs : List Nat) (file : Content) (holder : Option Pid) (q : Pid) (x : AProc) : Prop where
  recorded : x.recorded = true → x.entry ∈ recs
  cs : inCS x.pc ↔ holder = some q
  loaded : x.pc = .save → x.loaded = file

def AInv (init : Content) (s : AS) : Prop :=
  ∃ recs : List Nat, s.file = init ++ recs ∧ ∀ q x, s.procs[q]? = some x → AOk recs s.file s.holder q x

theorem ainv_init (init : Content) (entries : List Nat) : AInv init (ainit init entries) := by
  refine ⟨[], by simp [ainit], fun q x h => ?_⟩
  simp only [ainit, List.getElem?_map, Option.map_eq_some_iff] at h
  obtain ⟨e, _, rfl⟩ := h
  exact ⟨nofun, by simp [inCS, ainit], nofun⟩

theorem ainv_step {init : Content} {s s' : AS} {p : Pid} {t : Bool} (hi : AInv init s)
    (h : astep true s p t = some s') : AInv init s' := by
  obtain ⟨recs, hf, hall⟩ := hi
  revert h
  fun_cases astep true s p t
  -- disabled steps yield `none`; the enabled ones remain, in program order
  all_goals
    intro h
    cases h
  next h => cases h  -- the `withLock = false` arm of `wantLock`: not this protocol
  next pr hp hpc _ hfree =>  -- `wantLock`, the lock is free
    have hpr := hall p pr hp
    rw [Option.isNone_iff_eq_none] at hfree
    refine ⟨recs, hf, List.forall_set { hpr with cs := by simp [inCS], loaded := nofun } fun q x hne hq => ?_⟩
    have hx := hall q x hq
    exact { hx with cs := by simpa [hfree, Ne.symm hne] using hx.cs }
  next pr hp hpc _ _ _ =>  -- `wantLock`, timed out
    have hpr := hall p pr hp
    have hout : ¬ s.holder = some p := by simpa [hpc, inCS] using hpr.cs
    exact ⟨recs, hf, List.forall_set { hpr with cs := by simp [inCS, hout], loaded := nofun }
      fun q x _ hq => hall q x hq⟩
  next pr hp hpc =>  -- `load`
    have hpr := hall p pr hp
    have hin : s.holder = some p := hpr.cs.1 (by simp [hpc, inCS])
    exact ⟨recs, hf, List.forall_set { hpr with cs := by simp [inCS, hin], loaded := fun _ => rfl }
      fun q x _ hq => hall q x hq⟩
  next pr hp hpc _ =>  -- `save`, abandoned after a timeout
    have hpr := hall p pr hp
    have hin : s.holder = some p := hpr.cs.1 (by simp [hpc, inCS])
    exact ⟨recs, hf, List.forall_set { hpr with cs := by simp [inCS, hin], loaded := nofun }
      fun q x _ hq => hall q x hq⟩
  next pr hp hpc _ =>  -- `save`
    have hpr := hall p pr hp
    have hin : s.holder = some p := hpr.cs.1 (by simp [hpc, inCS])
    refine ⟨recs ++ [pr.entry], by simp [hpr.loaded hpc, hf],
      List.forall_set ⟨by simp, by simp [inCS, hin], nofun⟩ fun q x hne hq => ?_⟩
    have hx := hall q x hq
    -- another process in `save` would hold the lock too
    refine ⟨fun hr => List.mem_append_left _ (hx.recorded hr), hx.cs, fun hs => ?_⟩
    have := hx.cs.1 (Or.inr (Or.inl hs))
    rw [hin] at this
    exact absurd (Option.some.inj this).symm hne
  next pr hp hpc =>  -- `release`
    have hpr := hall p pr hp
    have hin : s.holder = some p := hpr.cs.1 (by simp [hpc, inCS])
    refine ⟨recs, hf, List.forall_set { hpr with cs := by simp [inCS], loaded := nofun } fun q x hne hq => ?_⟩
    have hx := hall q x hq
    exact { hx with cs := by simpa [hin, Ne.symm hne] using hx.cs }

theorem ainv_run (init : Content) (entries : List Nat) (sched : List (Pid × Bool)) :
    AInv init (arun true (ainit init entries) sched) :=
  arun_inv ainv_step sched (ainv_init init entries)

/-- **no recorded snapshot is lost**: for every number of concurrent snapshots, every
    interleaving and every pattern of lock timeouts, each snapshot that reported "recorded" is in
    the history afterwards, and nothing that was there before is gone -/
theorem no_recorded_snapshot_lost (init : Content) (entries : List Nat) (sched : List (Pid × Bool))
    (pr : AProc) (hm : pr ∈ (arun true (ainit init entries) sched).procs) (hr : pr.recorded = true) :
    pr.entry ∈ (arun true (ainit init entries) sched).file ∧
      init <+: (arun true (ainit init entries) sched).file := by
  obtain ⟨recs, hf, hall⟩ := ainv_run init entries sched
  obtain ⟨p, hp⟩ := List.mem_iff_getElem?.1 hm
  rw [hf]
  exact ⟨List.mem_append_right _ ((hall p pr hp).recorded hr), List.prefix_append _ _⟩

/-- mutual exclusion: at most one process is between acquiring and releasing the update lock -/
theorem update_lock_excludes (init : Content) (entries : List Nat) (sched : List (Pid × Bool))
    (p q : Pid) (x y : AProc)
    (hp : (arun true (ainit init entries) sched).procs[p]? = some x)
    (hq : (arun true (ainit init entries) sched).procs[q]? = some y)
    (hx : inCS x.pc) (hy : inCS y.pc) : p = q := by
  obtain ⟨_, _, hall⟩ := ainv_run init entries sched
  exact Option.some.inj (((hall p x hp).cs.1 hx).symm.trans ((hall q y hq).cs.1 hy))

/-- **without the lock an entry is lost** (the protocol as found): two snapshots load the same
    history, each writes back what it loaded plus its own entry, both report "recorded" -/
theorem lost_update_without_lock :
    ∃ sched : List (Pid × Bool), ∃ pr ∈ (arun false (ainit [] [1, 2]) sched).procs,
      pr.recorded = true ∧ pr.entry ∉ (arun false (ainit [] [1, 2]) sched).file := by
  exact ⟨[(0, false), (0, false), (1, false), (1, false), (0, false), (1, false), (0, false), (1, false)],
    by decide +kernel⟩

/-- non-vacuity: under the lock the same schedule serialises the two snapshots -/
example : (arun true (ainit [] [1, 2])
    [(0, false), (0, false), (1, false), (1, false), (0, false), (1, false), (0, false), (1, false),
     (1, false), (1, false), (1, false)]).file = [1, 2] := by decide +kernel

/-! ### what a step of the file protocol does -/

/-- The steps that touch no inode, with the new record and the new binding of the name: a loader's
    `File::open` (a missing file is the default, no lock is taken) and `SharedLockGuard::try_acquire`
    timing out (warn, read anyway); in `atomic_write_with_lock_timeout` the `open` of the target for
    locking, a target that was absent (nothing to lock or unlock), the exclusive lock timing out
    (`SaveOutcome::Skipped`), and `fs::rename`, the only step that rebinds the name. -/
inductive OwnStep (name : Option Nat) (pr : Proc) : Proc → Option Nat → Prop
  | openMissing : pr.pc = .rOpen → name = none → OwnStep name pr { pr with pc := .done, result := none } name
  | openFile {i} : pr.pc = .rOpen → name = some i → OwnStep name pr { pr with pc := .rLock, handle := some i } name
  | readUnlocked : pr.pc = .rLock → OwnStep name pr { pr with pc := .rRead, locked := false } name
  | openForLock : pr.pc = .wOpen → OwnStep name pr { pr with pc := .wLock, handle := name } name
  | nothingToLock : pr.pc = .wLock → pr.handle = none → OwnStep name pr { pr with pc := .wRename } name
  | saveSkipped : pr.pc = .wLock → OwnStep name pr { pr with pc := .done } name
  | rename : pr.pc = .wRename → OwnStep name pr { pr with pc := .wUnlock, saved := true } pr.temp
  | nothingToUnlock : pr.pc = .wUnlock → pr.handle = none →
      OwnStep name pr { pr with pc := .done, locked := false } name

/-- The steps of process `p` on the inode `n` it has open, with the new record and the new inode:
    the four `flock` operations. A loader's `try_lock_shared_with_timeout` succeeding and, after the
    read, the drop of its `SharedLockGuard`; the writer's `try_lock_exclusive_with_timeout`
    succeeding and its `unlock_file`. -/
inductive HeldStep (p : Pid) (pr : Proc) (n : Inode) : Proc → Inode → Prop
  | lockShared : pr.pc = .rLock → n.excl = none →
      HeldStep p pr n { pr with pc := .rRead, locked := true } { n with shared := p :: n.shared }
  | read : pr.pc = .rRead →
      HeldStep p pr n { pr with pc := .done, locked := false, result := some n.content }
        { n with shared := n.shared.filter (· ≠ p) }
  | lockExcl : pr.pc = .wLock → n.excl = none → n.shared = [] →
      HeldStep p pr n { pr with pc := .wRename, locked := true } { n with excl := some p }
  | unlock : pr.pc = .wUnlock →
      HeldStep p pr n { pr with pc := .done, locked := false } { n with excl := if pr.locked then none else n.excl }

/-- Every transition replaces the record `pr` of the process that moves and is of one of three
    kinds: it touches no inode, it changes the lock fields of the inode the process has open, or it
    is the writer's `File::create` of its temporary file, written and synced in the same step. -/
inductive FStep (s : FS) (p : Pid) (pr : Proc) : FS → Prop
  | own {pr' nm} : OwnStep s.name pr pr' nm → FStep s p pr { s with name := nm, procs := s.procs.set p pr' }
  | held {i n pr' n'} : pr.handle = some i → s.inodes[i]? = some n → HeldStep p pr n pr' n' →
      FStep s p pr { s with inodes := s.inodes.set i n', procs := s.procs.set p pr' }
  | temp {c} : pr.pc = .wTemp → pr.role = .writer c →
      FStep s p pr { s with inodes := s.inodes ++ [{ content := c, shared := [], excl := none }],
                            procs := s.procs.set p { pr with pc := .wOpen, temp := some s.inodes.length } }

theorem handle_inode {s : FS} {pr : Proc} {i : Nat} {n : Inode}
    (hb : pr.handle.bind (fun i => (s.inodes[i]?).map (fun n => (i, n))) = some (i, n)) :
    pr.handle = some i ∧ s.inodes[i]? = some n := by
  simp only [Option.bind_eq_some_iff, Option.map_eq_some_iff, Prod.mk.injEq] at hb
  obtain ⟨j, hj, m, hm, rfl, rfl⟩ := hb
  exact ⟨hj, hm⟩

theorem fstep_shape {s s' : FS} {p : Pid} {t : Bool} (h : fstep s p t = some s') :
    ∃ pr, s.procs[p]? = some pr ∧ FStep s p pr s' := by
  revert h
  fun_cases fstep s p t
  -- disabled steps yield `none`; the enabled ones remain, in program order
  all_goals
    intro h
    cases h
  next pr hp hpc hnm => exact ⟨pr, hp, .own (.openMissing hpc hnm)⟩
  next pr hp hpc i hnm => exact ⟨pr, hp, .own (.openFile hpc hnm)⟩
  next pr hp hpc i n hb hfree =>
    exact ⟨pr, hp, .held (handle_inode hb).1 (handle_inode hb).2 (.lockShared hpc (Option.isNone_iff_eq_none.1 hfree))⟩
  next pr hp hpc _ _ _ _ _ => exact ⟨pr, hp, .own (.readUnlocked hpc)⟩
  next pr hp hpc i n hb => exact ⟨pr, hp, .held (handle_inode hb).1 (handle_inode hb).2 (.read hpc)⟩
  next pr hp hpc c hr => exact ⟨pr, hp, .temp hpc hr⟩
  next pr hp hpc => exact ⟨pr, hp, .own (.openForLock hpc)⟩
  next pr hp hpc hh => exact ⟨pr, hp, .own (.nothingToLock hpc hh)⟩
  next pr hp hpc i hh n hn hfree =>
    simp only [Bool.and_eq_true, Option.isNone_iff_eq_none, List.isEmpty_iff] at hfree
    exact ⟨pr, hp, .held hh hn (.lockExcl hpc hfree.1 hfree.2)⟩
  next pr hp hpc _ _ _ _ _ _ => exact ⟨pr, hp, .own (.saveSkipped hpc)⟩
  next pr hp hpc => exact ⟨pr, hp, .own (.rename hpc)⟩
  next pr hp hpc hh => exact ⟨pr, hp, .own (.nothingToUnlock hpc hh)⟩
  next pr hp hpc i hh n hn => exact ⟨pr, hp, .held hh hn (.unlock hpc)⟩

theorem OwnStep.name_eq {name nm : Option Nat} {pr pr' : Proc} (h : OwnStep name pr pr' nm) :
    nm = name ∨ (pr.pc = .wRename ∧ nm = pr.temp) := by
  cases h with
  | rename hpc => exact Or.inr ⟨hpc, rfl⟩
  | _ => exact Or.inl rfl

/-! ### the file protocol: reads are never torn, the file is always some writer's content -/

/-- everything that can legitimately be in the state file -/
def allowed (initial : Option Content) (roles : List Role) : List Content :=
  initial.toList ++ roles.filterMap (fun r => match r with | .writer c => some c | .reader => none)

/-- what the invariant says about one process, `n` being the number of inodes -/
structure ProcOk (al : List Content) (n : Nat) (pr : Proc) : Prop where
  result : ∀ c, pr.result = some c → c ∈ al
  role : ∀ c, pr.role = .writer c → c ∈ al
  temp : ∀ t, pr.temp = some t → t < n
  /-- a writer has its temporary file from `File::create` until it has renamed it -/
  hasTemp : pr.pc = .wOpen ∨ pr.pc = .wLock ∨ pr.pc = .wRename → pr.temp.isSome = true

/-- only allowed contents exist (in the inodes, in what was read, in what will be written), and
    the name and the temporary files refer to inodes that exist -/
structure FInv (al : List Content) (s : FS) : Prop where
  content : ∀ n ∈ s.inodes, n.content ∈ al
  procs : ∀ pr ∈ s.procs, ProcOk al s.inodes.length pr
  name : ∀ i, s.name = some i → i < s.inodes.length

theorem finit_inodes {initial : Option Content} {roles : List Role} {n : Inode}
    (h : n ∈ (finit initial roles).inodes) : initial = some n.content ∧ n.shared = [] ∧ n.excl = none := by
  cases initial with
  | none => simp [finit] at h
  | some c => simp [finit] at h; subst h; exact ⟨rfl, rfl, rfl⟩

theorem finit_procs {initial : Option Content} {roles : List Role} {pr : Proc}
    (h : pr ∈ (finit initial roles).procs) : ∃ r ∈ roles, startOf r = pr :=
  List.mem_map.1 h

theorem finv_init (initial : Option Content) (roles : List Role) :
    FInv (allowed initial roles) (finit initial roles) := by
  refine ⟨fun n hn => ?_, fun pr hpr => ?_, fun i hi => ?_⟩
  · simp [allowed, (finit_inodes hn).1]
  · obtain ⟨r, hr, rfl⟩ := finit_procs hpr
    refine ⟨by simp [startOf], fun c hc => ?_, by simp [startOf], by cases r <;> simp [startOf]⟩
    exact List.mem_append_right _ (List.mem_filterMap.2 ⟨r, hr, by rw [show r = .writer c from hc]⟩)
  · cases initial <;> simp_all [finit]

theorem finv_step {al : List Content} {s s' : FS} {p : Pid} {t : Bool} (hi : FInv al s)
    (h : fstep s p t = some s') : FInv al s' := by
  obtain ⟨pr, hp, hs⟩ := fstep_shape h
  have hpr := hi.procs pr (List.mem_of_getElem? hp)
  cases hs with
  | own ho =>
    refine ⟨hi.content, List.forall_mem_set hi.procs ?_, ?_⟩
    · cases ho with
      | openMissing => exact { hpr with result := nofun, hasTemp := by simp }
      | openFile | readUnlocked | saveSkipped | nothingToUnlock => exact { hpr with hasTemp := by simp }
      | openForLock hpc | nothingToLock hpc | rename hpc =>
        exact { hpr with hasTemp := fun _ => hpr.hasTemp (by simp [hpc]) }
    · rcases ho.name_eq with e | ⟨_, e⟩
      · rw [e]; exact hi.name
      · rw [e]; exact hpr.temp
  | @held i n pr' n' _ hn hh =>
    have hc := hi.content n (List.mem_of_getElem? hn)
    refine ⟨List.forall_mem_set hi.content ?_, ?_, ?_⟩
    · cases hh <;> exact hc
    · rw [List.length_set]
      refine List.forall_mem_set hi.procs ?_
      cases hh with
      | read => exact { hpr with result := fun c hc' => Option.some.inj hc' ▸ hc, hasTemp := by simp }
      | lockShared | unlock => exact { hpr with hasTemp := by simp }
      | lockExcl hpc => exact { hpr with hasTemp := fun _ => hpr.hasTemp (by simp [hpc]) }
    · rw [List.length_set]; exact hi.name
  | @temp c hpc hr =>
    have grow := Nat.le_add_right s.inodes.length 1
    refine ⟨?_, ?_, ?_⟩
    · exact List.forall_mem_append.2 ⟨hi.content, List.forall_mem_singleton.2 (hpr.role c hr)⟩
    · rw [List.length_append]
      refine List.forall_mem_set (fun x hx => ?_) { hpr with temp := by simp, hasTemp := by simp }
      have hx := hi.procs x hx
      exact { hx with temp := fun t ht => Nat.lt_of_lt_of_le (hx.temp t ht) grow }
    · intro j hj; rw [List.length_append]; exact Nat.lt_of_lt_of_le (hi.name j hj) grow

theorem finv_run (initial : Option Content) (roles : List Role) (sched : List (Pid × Bool)) :
    FInv (allowed initial roles) (frun (finit initial roles) sched) :=
  frun_inv finv_step sched (finv_init initial roles)

/-- **no torn or empty read**: under every interleaving of any readers and writers, whatever a
    reader reads is the initial content or the complete content of one writer -/
theorem reads_are_complete (initial : Option Content) (roles : List Role) (sched : List (Pid × Bool))
    (pr : Proc) (hm : pr ∈ (frun (finit initial roles) sched).procs) (c : Content)
    (hr : pr.result = some c) : c ∈ allowed initial roles :=
  ((finv_run initial roles sched).procs pr hm).result c hr

/-- **the file is always one writer's content**: at every moment the name refers to the initial
    content or to the complete content of one of the writers -/
theorem file_is_some_writers (initial : Option Content) (roles : List Role) (sched : List (Pid × Bool))
    (c : Content) (hc : current (frun (finit initial roles) sched) = some c) : c ∈ allowed initial roles := by
  simp only [current, Option.bind_eq_some_iff, Option.map_eq_some_iff] at hc
  obtain ⟨i, _, n, hn, rfl⟩ := hc
  exact (finv_run initial roles sched).content n (List.mem_of_getElem? hn)

theorem name_stays {al : List Content} {s s' : FS} {p : Pid} {t : Bool} (hi : FInv al s)
    (h : fstep s p t = some s') (hn : s.name.isSome = true) : s'.name.isSome = true := by
  obtain ⟨pr, hp, hs⟩ := fstep_shape h
  cases hs with
  | own ho =>
    rcases ho.name_eq with e | ⟨hpc, e⟩
    · rw [e]; exact hn
    · rw [e]; exact (hi.procs pr (List.mem_of_getElem? hp)).hasTemp (Or.inr (Or.inr hpc))
  | held => exact hn
  | temp => exact hn

theorem bound_name_stays {al : List Content} {s : FS} (hi : FInv al s) (hn : s.name.isSome = true)
    (sched : List (Pid × Bool)) : (current (frun s sched)).isSome = true := by
  have ⟨hi', hn'⟩ : FInv al (frun s sched) ∧ (frun s sched).name.isSome = true :=
    frun_inv (I := fun s => FInv al s ∧ s.name.isSome = true)
      (fun h hs => ⟨finv_step h.1 hs, name_stays h.1 hs h.2⟩) sched ⟨hi, hn⟩
  obtain ⟨i, e⟩ := Option.isSome_iff_exists.1 hn'
  simp [current, e, List.getElem?_eq_getElem (hi'.name i e)]

/-- a state file that exists never disappears under its name, whatever the interleaving (the
    placeholder window of the original save protocol, repaired under C13, is gone) -/
theorem file_never_vanishes (c0 : Content) (roles : List Role) (sched : List (Pid × Bool)) :
    (current (frun (finit (some c0) roles) sched)).isSome = true :=
  bound_name_stays (finv_init (some c0) roles) rfl sched

/-! ### lock discipline: who holds what, and nothing is held by a finished process -/

/-- by its own record, the process holds a shared lock on inode `i` -/
def SharedOn (pr : Proc) (i : Nat) : Prop := pr.pc = .rRead ∧ pr.locked = true ∧ pr.handle = some i

/-- by its own record, the process holds the exclusive lock on inode `i` -/
def ExclOn (pr : Proc) (i : Nat) : Prop :=
  (pr.pc = .wRename ∨ pr.pc = .wUnlock) ∧ pr.locked = true ∧ pr.handle = some i

/-- what inode `i` records about process `q` is what the record `x` of `q` says -/
def Agree (q : Pid) (x : Proc) (i : Nat) (n : Inode) : Prop :=
  (q ∈ n.shared → SharedOn x i) ∧ (n.excl = some q ↔ ExclOn x i)

/-- the `locked` flag is off outside the three lock-holding program points -/
def FlagOk (pr : Proc) : Prop := pr.locked = true → pr.pc = .rRead ∨ pr.pc = .wRename ∨ pr.pc = .wUnlock

/-- the lock fields of the inodes and the processes' own view agree; lock holders are processes,
    and an inode a writer believes it has locked exists -/
structure LockInv (s : FS) : Prop where
  agree : ∀ (q : Pid) (x : Proc), s.procs[q]? = some x →
    ∀ (i : Nat) (n : Inode), s.inodes[i]? = some n → Agree q x i n
  disjoint : ∀ n ∈ s.inodes, n.excl.isSome = true → n.shared = []
  holders : ∀ n ∈ s.inodes, ∀ q, q ∈ n.shared ∨ n.excl = some q → q < s.procs.length
  opened : ∀ x ∈ s.procs, ∀ i, ExclOn x i → i < s.inodes.length
  flag : ∀ x ∈ s.procs, FlagOk x

/-- A step that touches no inode changes no claim: on every inode the shared claim (there is none
    at these program points) and the exclusive claim (`rename` carries it from `wRename` to
    `wUnlock`) are the same before and after; the `locked` flag stays coherent. -/
theorem OwnStep.keeps_claims {name nm : Option Nat} {pr pr' : Proc} (h : OwnStep name pr pr' nm) :
    (∀ i, (SharedOn pr' i ↔ SharedOn pr i) ∧ (ExclOn pr' i ↔ ExclOn pr i)) ∧ (FlagOk pr → FlagOk pr') := by
  cases h with
  | nothingToLock hpc hh | nothingToUnlock hpc hh => simp [SharedOn, ExclOn, FlagOk, hpc, hh]
  | openMissing hpc | openFile hpc | readUnlocked hpc | openForLock hpc | saveSkipped hpc | rename hpc =>
    simp [SharedOn, ExclOn, FlagOk, hpc]

/-- A lock operation of `p` on the inode `i` it has open, given that inode and record agreed and
    the inode was not locked both ways. In this order: the handle is still `i`; the new inode and
    the new record agree about `p`; the `locked` flag is coherent; the inode is still not locked
    both ways; what the inode says of any other process is unchanged (a shared entry may only go). -/
theorem HeldStep.updates_claims {p : Pid} {pr pr' : Proc} {n n' : Inode} {i : Nat} (h : HeldStep p pr n pr' n')
    (hh : pr.handle = some i) (ha : Agree p pr i n) (hd : n.excl.isSome = true → n.shared = []) :
    pr'.handle = some i ∧ Agree p pr' i n' ∧ FlagOk pr' ∧ (n'.excl.isSome = true → n'.shared = []) ∧
    ∀ q, q ≠ p → (q ∈ n'.shared → q ∈ n.shared) ∧ (n'.excl = some q ↔ n.excl = some q) := by
  obtain ⟨hs, hx⟩ := ha
  cases h with
  | lockShared hpc hex =>
    exact ⟨hh, ⟨fun _ => ⟨rfl, rfl, hh⟩, by simp [ExclOn, hex]⟩, by simp [FlagOk], by simp [hex],
      fun q e => ⟨by simp [e], Iff.rfl⟩⟩
  | read hpc =>
    exact ⟨hh, ⟨by simp, by simpa [ExclOn, hpc] using hx⟩, by simp [FlagOk], fun e => by simp [hd e],
      fun q _ => ⟨fun hq => (List.mem_filter.1 hq).1, Iff.rfl⟩⟩
  | lockExcl hpc hex hsh =>
    exact ⟨hh, ⟨by simp [hsh], by simp [ExclOn, hh]⟩, by simp [FlagOk], fun _ => hsh,
      fun q e => ⟨id, by simp [hex, Ne.symm e]⟩⟩
  | unlock hpc =>
    have hns : p ∈ n.shared → SharedOn { pr with pc := .done, locked := false } i :=
      fun e => by simpa [SharedOn, hpc] using hs e
    cases hl : pr.locked with
    | true =>
      -- `unlock_file` clears the exclusive holder whoever it is; that it is `p` is the invariant
      have hme : n.excl = some p := hx.2 ⟨Or.inr hpc, hl, hh⟩
      exact ⟨hh, ⟨hns, by simp [ExclOn]⟩, by simp [FlagOk], by simp,
        fun q e => ⟨id, by simp [hme, Ne.symm e]⟩⟩
    | false =>
      exact ⟨hh, ⟨hns, by simpa [ExclOn, hl] using hx⟩, by simp [FlagOk], by simpa using hd,
        fun q _ => ⟨id, by simp⟩⟩

theorem lockflag_step {s s' : FS} {p : Pid} {t : Bool} (hi : LockInv s) (h : fstep s p t = some s') :
    LockInv s' := by
  obtain ⟨pr, hp, hs⟩ := fstep_shape h
  have hmem := List.mem_of_getElem? hp
  cases hs with
  | own ho =>
    exact {
      agree := List.forall_set
        (fun i n hn => by simpa only [Agree, ho.keeps_claims.1 i] using hi.agree p pr hp i n hn)
        fun q x _ hx => hi.agree q x hx
      disjoint := hi.disjoint
      holders := by rw [List.length_set]; exact hi.holders
      opened := List.forall_mem_set hi.opened fun i c => hi.opened pr hmem i ((ho.keeps_claims.1 i).2.1 c)
      flag := List.forall_mem_set hi.flag (ho.keeps_claims.2 (hi.flag pr hmem)) }
  | temp hpc _ =>
    -- the new inode is locked by nobody, and nobody believes to have locked it: it did not exist
    exact {
      agree := List.forall_set
        (List.forall_concat
          (fun j m hm => by simpa [Agree, SharedOn, ExclOn, hpc] using hi.agree p pr hp j m hm)
          (by simp [Agree, SharedOn, ExclOn]))
        fun q x _ hx => List.forall_concat (hi.agree q x hx)
          ⟨nofun, nofun, fun c => (Nat.lt_irrefl _ (hi.opened x (List.mem_of_getElem? hx) _ c)).elim⟩
      disjoint := List.forall_mem_append.2 ⟨hi.disjoint, List.forall_mem_singleton.2 fun _ => rfl⟩
      holders := by
        rw [List.length_set]
        exact List.forall_mem_append.2 ⟨hi.holders, List.forall_mem_singleton.2 fun q hq => by simp at hq⟩
      opened := by
        rw [List.length_append]
        exact List.forall_mem_set (fun x hx i c => Nat.lt_add_right 1 (hi.opened x hx i c))
          fun i c => by simp [ExclOn] at c
      flag := List.forall_mem_set hi.flag (by simpa [FlagOk, hpc] using hi.flag pr hmem) }
  | @held i n pr' n' hh hn hl =>
    have hnm := List.mem_of_getElem? hn
    obtain ⟨hh', hown, hfl, hd, hoth⟩ := hl.updates_claims hh (hi.agree p pr hp i n hn) (hi.disjoint n hnm)
    exact {
      agree := List.forall_set
        (List.forall_set hown fun j m hj hm => by
          -- on another inode `p` has no entry and claims none, before or after: its handle is `i`
          simpa [Agree, SharedOn, ExclOn, hh, hh', Ne.symm hj] using hi.agree p pr hp j m hm)
        fun q x hq hx => List.forall_set
          (have a := hi.agree q x hx i n hn; ⟨fun h => a.1 ((hoth q hq).1 h), (hoth q hq).2.trans a.2⟩)
          fun j m _ hm => hi.agree q x hx j m hm
      disjoint := List.forall_mem_set hi.disjoint hd
      holders := by
        rw [List.length_set]
        refine List.forall_mem_set hi.holders fun q hq => ?_
        by_cases e : q = p
        · exact e ▸ (List.getElem?_eq_some_iff.1 hp).1
        · exact hi.holders n hnm q (hq.imp (hoth q e).1 (hoth q e).2.1)
      opened := by
        rw [List.length_set]
        refine List.forall_mem_set hi.opened fun j c => ?_
        cases Option.some.inj (c.2.2.symm.trans hh')
        exact (List.getElem?_eq_some_iff.1 hn).1
      flag := List.forall_mem_set hi.flag hfl }

theorem lockinv_init (initial : Option Content) (roles : List Role) : LockInv (finit initial roles) where
  agree q x hq i n hn := by
    obtain ⟨_, hs, he⟩ := finit_inodes (List.mem_of_getElem? hn)
    obtain ⟨r, _, rfl⟩ := finit_procs (List.mem_of_getElem? hq)
    cases r <;> simp [Agree, ExclOn, startOf, hs, he]
  disjoint n hn _ := (finit_inodes hn).2.1
  holders n hn q hq := by
    obtain ⟨_, hs, he⟩ := finit_inodes hn
    simp [hs, he] at hq
  opened x hx i c := by
    obtain ⟨r, _, rfl⟩ := finit_procs hx
    cases r <;> simp [ExclOn, startOf] at c
  flag x hx := by
    obtain ⟨r, _, rfl⟩ := finit_procs hx
    exact nofun

theorem lockinv_run (initial : Option Content) (roles : List Role) (sched : List (Pid × Bool)) :
    LockInv (frun (finit initial roles) sched) :=
  frun_inv lockflag_step sched (lockinv_init initial roles)

/-- **no lock outlives its holder's critical section**: under every schedule, a process that has
    finished holds neither a shared nor the exclusive lock on any inode — so a waiter is only ever
    held up by a process that is itself between acquiring and releasing, never by a finished one -/
theorem finished_process_holds_no_lock (initial : Option Content) (roles : List Role)
    (sched : List (Pid × Bool)) (p : Pid) (pr : Proc)
    (hp : (frun (finit initial roles) sched).procs[p]? = some pr) (hd : pr.pc = .done)
    (i : Nat) (n : Inode) (hn : (frun (finit initial roles) sched).inodes[i]? = some n) :
    p ∉ n.shared ∧ n.excl ≠ some p := by
  simpa [Agree, SharedOn, ExclOn, hd] using (lockinv_run initial roles sched).agree p pr hp i n hn

/-- **readers and the writer exclude each other**: while an inode is locked exclusively nobody
    holds a shared lock on it -/
theorem exclusive_excludes_shared (initial : Option Content) (roles : List Role)
    (sched : List (Pid × Bool)) (i : Nat) (n : Inode)
    (hn : (frun (finit initial roles) sched).inodes[i]? = some n) (he : n.excl.isSome = true) :
    n.shared = [] :=
  (lockinv_run initial roles sched).disjoint n (List.mem_of_getElem? hn) he

/-! non-vacuity: two writers and a reader, an interleaving in which the reader opens the old file,
    the first writer renames, and the reader still reads the complete old content -/
example : (frun (finit (some [1]) [.reader, .writer [1, 2], .writer [1, 3]])
    [(0, false), (1, false), (1, false), (0, false), (2, false), (0, false), (2, false), (2, false), (2, false),
     (2, false), (1, false), (1, false), (1, false)]).procs.map (·.result) = [some [1], none, none] := by
  decide +kernel

end SlocModel.Props.C14
