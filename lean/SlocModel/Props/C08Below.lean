import SlocModel.Props.C08
/-!
  C08 — a run started below the project root (`baselineKeyAt`) records the baseline keys of the
  whole-project run.
-/
namespace SlocModel.PathSpelling

/-- at the project root nothing changes -/
theorem baselineKeyAt_root (walked : List Seg) : baselineKeyAt [] walked = baselineKey walked := rfl

/-- **a run started below the project root records project-relative keys**: a file walked as
    `./rel` from the directory `below` gets the key the whole-project run gives it as
    `./below/rel` -/
theorem subdir_run_keys_agree (below rel : List Seg) (hb : below ≠ []) (hr : rel ≠ [])
    (hp : SlocModel.Props.C08.Plain rel) :
    baselineKeyAt below (walked [dot] rel) = baselineKey (walked [dot] (below ++ rel)) := by
  -- `rel = [.]` is no walked entry
  have hdot : rel ≠ [dot] := fun h => (hp dot (h ▸ List.mem_singleton_self _)).2 rfl
  simp [baselineKeyAt, walked, Props.C08.baselineKey_dot_cons, hb, hr, hdot]

end SlocModel.PathSpelling
