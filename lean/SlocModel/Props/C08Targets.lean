import SlocModel.Props.C08
/-!
  C08 / C01 — several scan targets (fix ce25ed1): a target that lies below another target, or
  repeats it, is dropped, so nothing is walked (and reported) twice and nothing is lost.
-/
namespace SlocModel.PathSpelling

theorem covers_iff (a b : List Seg) :
    covers a b = true ↔ a <+: b ∧ (dotdot ∈ b → a = b) := by
  fun_cases covers a b
  next h =>  -- a `..` in either: equality is asked
    simp only [Bool.or_eq_true, List.contains_iff_mem] at h
    rw [beq_iff_eq]
    -- a prefix of `b` that has a `..` segment puts one into `b`
    exact ⟨fun e => ⟨e ▸ List.prefix_refl a, fun _ => e⟩, fun ⟨hp, he⟩ => he (h.elim (hp.subset ·) id)⟩
  next h =>  -- none: a prefix is asked
    simp only [Bool.or_eq_true, List.contains_iff_mem, not_or] at h
    rw [List.isPrefixOf_iff_prefix]
    exact ⟨fun hp => ⟨hp, fun hb => absurd hb h.2⟩, (·.1)⟩

theorem covers_refl (a : List Seg) : covers a a = true :=
  (covers_iff a a).2 ⟨List.prefix_refl a, fun _ => rfl⟩

theorem covers_trans (a b c : List Seg) (h1 : covers a b = true) (h2 : covers b c = true) :
    covers a c = true := by
  rw [covers_iff] at *
  exact ⟨h1.1.trans h2.1, fun hc => by cases h2.2 hc; exact h1.2 hc⟩

theorem nestedAt_true_iff (ts : List (List Seg)) (i : Nat) (t : List Seg) :
    nestedAt ts i t = true ↔
      ∃ o j, ts[j]? = some o ∧ j ≠ i ∧ covers o t = true ∧ ¬ (covers t o = true ∧ i < j) := by
  simp only [nestedAt, List.any_eq_true, Prod.exists, List.mem_zipIdx_iff_getElem?, Bool.and_eq_true,
    bne_iff_ne, Bool.not_eq_true', Bool.and_eq_false_imp, decide_eq_false_iff_not, and_assoc, not_and]

theorem mem_dropNested (ts : List (List Seg)) (k : Nat) (t : List Seg) (hk : ts[k]? = some t)
    (hn : nestedAt ts k t = false) : t ∈ dropNested ts := by
  refine List.mem_map.mpr ⟨(t, k), List.mem_filter.mpr ⟨List.mem_zipIdx_iff_getElem?.mpr hk, ?_⟩, rfl⟩
  simp [hn]

/-- **nothing is lost**: every target given is covered by a target that is kept.  A target that is
    dropped is covered by a shorter one, or by an equal one at an earlier position. -/
theorem dropNested_covers_at (ts : List (List Seg)) (i : Nat) (t : List Seg) (hi : ts[i]? = some t) :
    ∃ k ∈ dropNested ts, covers k t = true := by
  cases hnest : nestedAt ts i t with
  | false => exact ⟨t, mem_dropNested ts i t hi hnest, covers_refl t⟩
  | true =>
    obtain ⟨o, j, hj, hne, hc, hn⟩ := (nestedAt_true_iff ts i t).mp hnest
    have hp := ((covers_iff o t).1 hc).1
    have : o.length < t.length ∨ o.length = t.length ∧ j < i := by
      rcases Nat.lt_or_eq_of_le hp.length_le with h | h
      · exact .inl h
      · -- a prefix of the same length is the same key, and of two equal keys the later is dropped
        cases hp.eq_of_length h
        have : ¬ i < j := fun h' => hn ⟨hc, h'⟩
        exact .inr ⟨h, by omega⟩
    obtain ⟨k, hk, hko⟩ := dropNested_covers_at ts j o hj
    exact ⟨k, hk, covers_trans k o t hko hc⟩
termination_by (t.length, i)
decreasing_by exact Prod.lex_def.2 this

/-- every target given lies below a kept target (the union of the scanned sub-trees is unchanged) -/
theorem dropNested_keeps_coverage (ts : List (List Seg)) (t : List Seg) (h : t ∈ ts) :
    ∃ k ∈ dropNested ts, covers k t = true := by
  obtain ⟨i, hi⟩ := List.mem_iff_getElem?.mp h
  exact dropNested_covers_at ts i t hi

/-- a kept target yields only to a repetition of itself at an earlier position -/
theorem nestedAt_false {ts : List (List Seg)} {i : Nat} {t : List Seg} (h : nestedAt ts i t = false)
    {j : Nat} {o : List Seg} (hj : ts[j]? = some o) (hne : j ≠ i) (hc : covers o t = true) :
    covers t o = true ∧ i < j :=
  Classical.byContradiction fun hn =>
    Bool.false_ne_true (h.symm.trans ((nestedAt_true_iff ts i t).mpr ⟨o, j, hj, hne, hc, hn⟩))

/-- **nothing is walked twice**: no kept target lies below (or repeats) a target at another
    position that is kept as well -/
theorem dropNested_antichain (ts : List (List Seg)) (i j : Nat) (a b : List Seg)
    (hi : ts[i]? = some a) (hj : ts[j]? = some b) (hne : i ≠ j)
    (ha : nestedAt ts i a = false) (hb : nestedAt ts j b = false) : covers a b = false := by
  cases hc : covers a b with
  | false => rfl
  | true =>
    -- each would have to come before the other
    obtain ⟨hba, hji⟩ := nestedAt_false hb hi hne hc
    exact absurd (nestedAt_false ha hj (Ne.symm hne) hba).2 (Nat.lt_asymm hji)

example : dropNested [[], ["src".toList]] = [[]] := by char_lists; decide +kernel
example : dropNested [["src".toList], ["src".toList, "gen".toList], ["src-gen".toList], ["src".toList]]
    = [["src".toList], ["src-gen".toList]] := by char_lists; decide +kernel

end SlocModel.PathSpelling
