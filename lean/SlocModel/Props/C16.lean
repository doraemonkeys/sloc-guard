import SlocModel.Extends
/-!
  C16 — Config inheritance is a deterministic left fold and always terminates.
  Statements about `SlocModel.Toml` (merge.rs) and `SlocModel.Extends` (extends.rs).
-/
namespace SlocModel.Props.C16
open SlocModel SlocModel.Toml SlocModel.Extends

/-- child scalars (and any type mismatch) override -/
theorem merge_child_scalar_wins (b : Value) (s : List Char) (t : Nat) (p : List Char) :
    merge b (.str s) = .str s ∧ merge b (.other t p) = .other t p := by
  simp [merge]

/-- arrays concatenate, parent then child -/
theorem merge_arrays_concat (b c : Arr) (h : hasResetMarker c = false) :
    merge (.arr b) (.arr c) = .arr (b.append c) := by
  cases c with
  | nil => simp [merge, mergeArrays]
  | cons v rest => simp [hasResetMarker] at h; simp [merge, mergeArrays, h]

/-- a child array that begins with `$reset` discards the inherited elements -/
theorem merge_arrays_reset (b : Arr) (v : Value) (rest : Arr) (h : isResetElem v = true) :
    merge (.arr b) (.arr (.cons v rest)) = .arr rest := by
  simp [merge, mergeArrays, h]

theorem set_get (b : Tbl) (k : Key) (nv bv : Value) (h : b.get k = some bv) :
    (b.set k nv).get k = some nv := by
  fun_induction Tbl.get k b with
  | case1 => cases h
  | case2 v fs => simp [Tbl.set, Tbl.get]
  | case3 k' v fs hk ih => simp [Tbl.set, Tbl.get, hk, ih h]

theorem snoc_get (b : Tbl) (k : Key) (v : Value) (h : b.get k = none) :
    (b.snoc k v).get k = some v := by
  fun_induction Tbl.get k b with
  | case1 => simp [Tbl.snoc, Tbl.get]
  | case2 => cases h
  | case3 k' v' fs hk ih => simp [Tbl.snoc, Tbl.get, hk, ih h]

/-- tables merge key by key: an entry of the child present in the base receives the merge of the
    two values, an absent one is added as is -/
theorem merge_single_key (bt : Tbl) (k : Key) (cv : Value) :
    (mergeTbl bt (.cons k cv .nil)).get k =
      match bt.get k with
      | some bv => some (merge bv cv)
      | none => some cv := by
  simp only [mergeTbl]
  cases h : bt.get k with
  | some bv => simp [set_get bt k _ bv h]
  | none => simp [snoc_get bt k cv h]

/-! ### reset markers never reach the effective configuration -/

theorem strOf_strip (v : Value) : strOf (strip v) = strOf v := by
  cases v <;> rfl

theorem stripTbl_get (fs : Tbl) (k : Key) : (stripTbl fs).get k = (fs.get k).map strip := by
  fun_induction Tbl.get k fs with
  | case1 => rfl
  | case2 v fs => simp [stripTbl, Tbl.get]
  | case3 k' v fs hk ih => simp [stripTbl, Tbl.get, hk, ih]

theorem isResetElem_strip (v : Value) : isResetElem (strip v) = isResetElem v := by
  cases v with
  | tbl fs =>
    simp only [strip, isResetElem, stripTbl_get]
    cases fs.get ['p','a','t','t','e','r','n'] with
    | some pv => simp [strOf_strip]
    | none => cases fs.get ['s','c','o','p','e'] <;> simp [strOf_strip]
  | _ => rfl

mutual
/-- validation accepted ⇒ after stripping no array anywhere holds a reset element -/
theorem no_marker_survives (v : Value) (h : validReset v = true) : noMarker (strip v) = true :=
  match v, h with
  | .str _, _ => rfl
  | .other _ _, _ => rfl
  | .tbl fs, h => stripTbl_noMarker fs h
  | .arr xs, h => stripHead_noMarker xs h
theorem stripHead_noMarker : ∀ xs : Arr, validResetHead xs = true → noMarkerArr (stripHead xs) = true
  | .nil, _ => rfl
  | .cons v rest, h => by
    simp only [validResetHead, Bool.and_eq_true] at h
    simp only [stripHead]
    split
    · exact stripArr_noMarker rest h.2
    · next hm =>
      simp only [noMarkerArr, Bool.and_eq_true, Bool.not_eq_true', isResetElem_strip]
      exact ⟨⟨by simpa using hm, no_marker_survives v h.1⟩, stripArr_noMarker rest h.2⟩
theorem stripArr_noMarker : ∀ xs : Arr, validResetTail xs = true → noMarkerArr (stripArr xs) = true
  | .nil, _ => rfl
  | .cons v vs, h => by
    simp only [validResetTail, Bool.and_eq_true, Bool.not_eq_true'] at h
    simp only [stripArr, noMarkerArr, Bool.and_eq_true, Bool.not_eq_true', isResetElem_strip]
    exact ⟨⟨h.1.1, no_marker_survives v h.1.2⟩, stripArr_noMarker vs h.2⟩
theorem stripTbl_noMarker : ∀ fs : Tbl, validResetTbl fs = true → noMarkerTbl (stripTbl fs) = true
  | .nil, _ => rfl
  | .cons _ v fs, h => by
    simp only [validResetTbl, Bool.and_eq_true] at h
    simp only [stripTbl, noMarkerTbl, Bool.and_eq_true]
    exact ⟨no_marker_survives v h.1, stripTbl_noMarker fs h.2⟩
end

/-- a marker at index 1 of an array is rejected -/
theorem marker_second_rejected (v x : Value) (tail : Arr) (hx : isResetElem x = true) :
    validReset (.arr (.cons v (.cons x tail))) = false := by
  simp [validReset, validResetHead, validResetTail, hx]

theorem validResetTail_no_marker : ∀ (xs : Arr) (x : Value) (tail : Arr),
    isResetElem x = true → validResetTail (xs.append (.cons x tail)) = false
  | .nil, x, tail, hx => by simp [Arr.append, validResetTail, hx]
  | .cons y ys, x, tail, hx => by
    simp [Arr.append, validResetTail, validResetTail_no_marker ys x tail hx]

/-- a marker at any index past the first is rejected -/
theorem marker_elsewhere_rejected (v : Value) (mid : Arr) (x : Value) (tail : Arr)
    (hx : isResetElem x = true) :
    validReset (.arr (.cons v (mid.append (.cons x tail)))) = false := by
  simp [validReset, validResetHead, validResetTail_no_marker mid x tail hx]

theorem finish_cases (v : Value) :
    (∃ r, finish v = .ok r ∧ noMarker r = true) ∨ finish v = .error .resetPosition := by
  by_cases hv : validReset (removeExtends v) = true
  · exact .inl ⟨_, if_pos hv, no_marker_survives _ hv⟩
  · exact .inr (if_neg hv)

theorem finish_ok_noMarker (v r : Value) (h : finish v = .ok r) : noMarker r = true := by
  rcases finish_cases v with ⟨r', e, hr⟩ | e
  · cases e.symm.trans h; exact hr
  · cases e.symm.trans h

/-! ### resolution always terminates, cycles and over-deep chains are errors naming the chain -/

/-- every call of the resolver returns a marker-free value or an error; the error is `outOfFuel`
    only if the call had no fuel, or less fuel than the `maxExtendsDepth + 2 - depth` levels that
    can still be entered (a recursive call raises the depth by one and is made only from a depth
    within the maximum) -/
theorem resolve_result (fs presets : List (Name × Value)) (fuel : Nat) (name : Name)
    (visited : List Name) (depth : Nat) :
    match resolve fs presets fuel name visited depth with
    | .ok (r, _) => noMarker r = true
    | .error e => e = .outOfFuel → fuel = 0 ∨ fuel + depth ≤ Generated.maxExtendsDepth + 1 := by
  -- the three places where `resolve` ends in `wrapFinish`
  have fin (v : Value) (vis : List Name) {P : Prop} :
      match wrapFinish v vis with
      | .ok (r, _) => noMarker r = true
      | .error e => e = .outOfFuel → P := by
    unfold wrapFinish
    rcases finish_cases v with ⟨r, e, hr⟩ | e <;> rw [e]
    · exact hr
    · exact nofun
  fun_induction resolve fs presets fuel name visited depth
  next => exact fun _ => .inl rfl  -- no fuel
  next => exact nofun  -- no such file
  next => exact nofun  -- too deep
  next => exact nofun  -- circular
  next => exact nofun  -- `extends` of the wrong type
  next => exact fin _ _  -- no `extends`: a leaf
  next => exact nofun  -- unknown preset
  next => exact fin _ _  -- a preset as base
  next => exact nofun  -- remote reference
  next hd h ih => rw [h] at ih; exact fun he => .inr (by cases ih he <;> omega)  -- the base fails
  next => exact fin _ _  -- the base resolves

/-- the resolver never runs out of fuel: every recursive call raises the depth by one and a
    depth above the maximum is cut off before recursing.  (`fuel` stands for the Rust call
    stack; the theorem says recursion depth is bounded by `maxExtendsDepth + 2` for *every*
    reference graph, cyclic or not.) -/
theorem resolve_terminates (fs presets : List (Name × Value)) (fuel : Nat) (name : Name)
    (visited : List Name) (depth : Nat)
    (h : Generated.maxExtendsDepth + 2 ≤ fuel + depth) (hf : 1 ≤ fuel) :
    resolve fs presets fuel name visited depth ≠ .error .outOfFuel := by
  intro c
  have := resolve_result fs presets fuel name visited depth
  rw [c] at this
  have := this rfl
  omega

/-- the entry point uses `defaultFuel`, which is enough -/
theorem resolve_default_terminates (fs presets : List (Name × Value)) (name : Name) :
    resolve fs presets defaultFuel name [] 0 ≠ .error .outOfFuel :=
  resolve_terminates fs presets defaultFuel name [] 0 (by simp [defaultFuel]) (by simp [defaultFuel])

/-- a chain deeper than the documented maximum is an error carrying the chain walked so far -/
theorem too_deep (fs presets : List (Name × Value)) (fuel : Nat) (name : Name) (v : Value)
    (visited : List Name) (depth : Nat) (hfile : lookup fs name = some v)
    (hd : depth > Generated.maxExtendsDepth) :
    resolve fs presets (fuel + 1) name visited depth = .error (.tooDeep depth visited) := by
  simp [resolve, hfile, hd]

/-- a reference back into the chain is an error whose chain ends with the repeated name -/
theorem cycle_detected (fs presets : List (Name × Value)) (fuel : Nat) (name : Name) (v : Value)
    (visited : List Name) (depth : Nat) (hfile : lookup fs name = some v)
    (hd : ¬ depth > Generated.maxExtendsDepth) (hc : name ∈ visited) :
    resolve fs presets (fuel + 1) name visited depth = .error (.circular (visited ++ [name])) := by
  simp [resolve, hfile, hd, hc]

/-- an `extends` or `extends_sha256` of the wrong type is an error, not a dropped key -/
theorem bad_extends_rejected (fs presets : List (Name × Value)) (fuel : Nat) (name : Name) (v : Value)
    (visited : List Name) (depth : Nat) (hfile : lookup fs name = some v)
    (hd : ¬ depth > Generated.maxExtendsDepth) (hc : name ∉ visited) (hb : extendsBad v = true) :
    resolve fs presets (fuel + 1) name visited depth = .error .badExtends := by
  simp [resolve, hfile, hd, hc, hb]

/-- a file without a string `extends` is a leaf: no other file is consulted -/
theorem no_extends_is_leaf (fs fs' presets presets' : List (Name × Value)) (fuel : Nat)
    (name : Name) (v : Value) (visited : List Name) (depth : Nat)
    (h1 : lookup fs name = some v) (h2 : lookup fs' name = some v) (hx : extendsOf v = none) :
    resolve fs presets (fuel + 1) name visited depth =
      resolve fs' presets' (fuel + 1) name visited depth := by
  simp [resolve, h1, h2, hx]

/-! ### the effective configuration is the left fold of the documented merge -/

/-- one inheritance step: merge the child over the finished base, then finish -/
def stepFold (acc : Except Err Value) (child : Value) : Except Err Value :=
  match acc with
  | .ok b => finish (merge b child)
  | .error e => .error e

/-- base first: `finish c₀`, then `finish (merge acc cᵢ)` for each further member
    (a chain has a member: the value for `[]`, here and in `foldLeafFirst`, is a dummy) -/
def chainFold : List Value → Except Err Value
  | [] => .error .outOfFuel
  | c0 :: cs => cs.foldl stepFold (finish c0)

/-- A well-formed chain: `members` lists (name, value) from the *leaf* down to the base; each
    member's `extends` names the next one (a plain local reference), the base has none, all
    names are distinct and present in `fs`. -/
inductive Chain (fs : List (Name × Value)) : List (Name × Value) → Prop where
  | base (n : Name) (v : Value) : lookup fs n = some v → extendsBad v = false →
      extendsOf v = none → Chain fs [(n, v)]
  | step (n : Name) (v : Value) (m : Name) (w : Value) (rest : List (Name × Value)) :
      lookup fs n = some v → extendsBad v = false → extendsOf v = some m →
      presetPrefix.isPrefixOf m = false → isRemote m = false →
      Chain fs ((m, w) :: rest) → Chain fs ((n, v) :: (m, w) :: rest)

def leafName : List (Name × Value) → Name
  | [] => []
  | (n, _) :: _ => n

/-- fold over the members given leaf-first -/
def foldLeafFirst : List (Name × Value) → Except Err Value
  | [] => .error .outOfFuel
  | [(_, v)] => finish v
  | (_, v) :: rest => stepFold (foldLeafFirst rest) v

theorem wrapFinish_eq (v : Value) (vis : List Name) :
    wrapFinish v vis = (finish v).map (·, vis) := by
  unfold wrapFinish; cases finish v <;> rfl

theorem resolve_fold_aux (fs presets : List (Name × Value)) (members : List (Name × Value))
    (hc : Chain fs members) (k : Nat) (visited : List Name) (depth : Nat)
    (hdepth : depth + members.length ≤ Generated.maxExtendsDepth + 1)
    (hdistinct : (visited ++ members.map (·.1)).Nodup) :
    resolve fs presets (members.length + k) (leafName members) visited depth =
      (foldLeafFirst members).map (fun r => (r, visited ++ members.map (·.1))) := by
  induction hc generalizing visited depth with
  | base n v hl hb hx =>
    rw [List.length_cons] at hdepth ⊢
    have hd : ¬ depth > Generated.maxExtendsDepth := by omega
    have hv : n ∉ visited := fun hm =>
      (List.nodup_append.1 hdistinct).2.2 n hm n List.mem_cons_self rfl
    rw [Nat.add_right_comm]
    simp only [leafName, resolve, hl, hd, if_false, hb, hx, foldLeafFirst, wrapFinish_eq,
      List.contains_eq_mem, hv, decide_false, Bool.false_eq_true, List.map]
  | step n v m w rest hl hb hx hp hr _ ih =>
    rw [List.length_cons] at hdepth ⊢
    have hd : ¬ depth > Generated.maxExtendsDepth := by omega
    have hv : n ∉ visited := fun hm =>
      (List.nodup_append.1 hdistinct).2.2 n hm n List.mem_cons_self rfl
    have hrec := ih (visited ++ [n]) (depth + 1) (by omega)
      (by rw [List.append_assoc]; exact hdistinct)
    rw [Nat.add_right_comm]
    simp only [leafName, List.append_assoc] at hrec
    simp only [leafName, resolve, hl, hd, if_false, hb, hx, hp, hr, Bool.false_eq_true, hrec,
      foldLeafFirst, wrapFinish_eq, List.contains_eq_mem, hv, decide_false]
    cases foldLeafFirst ((m, w) :: rest) <;> rfl

/-- **resolve is the left fold**: for every acyclic chain of at most `maxExtendsDepth + 1`
    local files the resolver returns exactly the fold of `finish ∘ merge` from base to leaf
    (or the fold's marker-position error), and visits the members in order. -/
theorem resolve_fold (fs presets : List (Name × Value)) (members : List (Name × Value))
    (hc : Chain fs members) (hlen : members.length ≤ Generated.maxExtendsDepth + 1)
    (hdistinct : (members.map (·.1)).Nodup) :
    resolve fs presets defaultFuel (leafName members) [] 0 =
      (foldLeafFirst members).map (fun r => (r, members.map (·.1))) := by
  have := resolve_fold_aux fs presets members hc (defaultFuel - members.length) [] 0
    (by omega) hdistinct
  rwa [Nat.add_sub_cancel' (show members.length ≤ defaultFuel from Nat.le_succ_of_le hlen)] at this

/-- one more member at the leaf end is one more step of the fold -/
theorem chainFold_concat (cs : List Value) (c : Value) (h : cs ≠ []) :
    chainFold (cs ++ [c]) = stepFold (chainFold cs) c := by
  cases cs with
  | nil => exact absurd rfl h
  | cons c0 cs => simp [chainFold, List.foldl_append]

/-- `foldLeafFirst` is the left fold `chainFold` over the members listed base-first -/
theorem foldLeafFirst_eq_chainFold (members : List (Name × Value)) (h : members ≠ []) :
    foldLeafFirst members = chainFold (members.reverse.map (·.2)) := by
  induction members with
  | nil => exact absurd rfl h
  | cons x xs ih =>
    cases xs with
    | nil => rfl
    | cons y ys =>
      rw [List.reverse_cons, List.map_append, List.map_singleton, chainFold_concat, ← ih nofun]
      · rfl
      · simp

def exBase : Value :=
  .tbl (.cons ['a'] (.arr (.cons (.str ['x']) .nil)) (.cons ['m'] (.other 1 ['5']) .nil))
def exLeaf : Value :=
  .tbl (.cons extendsKey (.str ['b'])
    (.cons ['a'] (.arr (.cons (.str Generated.resetMarker) (.cons (.str ['y']) .nil))) .nil))
def exFs : List (Name × Value) := [(['l'], exLeaf), (['b'], exBase)]

example : Chain exFs [(['l'], exLeaf), (['b'], exBase)] :=
  .step _ _ _ _ _ rfl (by decide) rfl (by decide) (by decide) (.base _ _ rfl (by decide) rfl)

/-- `extends = 5` (a non-string) is rejected -/
example : (match resolve [(['l'], .tbl (.cons extendsKey (.other 1 ['5']) .nil))] [] defaultFuel ['l'] [] 0 with
    | .error .badExtends => true
    | _ => false) = true := by decide +kernel

/-- the leaf's `[$reset, y]` replaces the inherited `[x]`; `m` is inherited; no marker is left -/
example : (match resolve exFs [] defaultFuel ['l'] [] 0 with
    | .ok (.tbl fs, vis) =>
      (match fs.get ['a'] with
       | some (.arr (.cons (.str s) .nil)) => s = ['y']
       | _ => false) && (fs.get ['m']).isSome && !(fs.hasKey extendsKey) && vis = [['l'], ['b']]
    | _ => false) = true := by decide +kernel

end SlocModel.Props.C16
