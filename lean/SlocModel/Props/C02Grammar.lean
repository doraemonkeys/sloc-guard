import SlocModel.Props.C02
import SlocModel.Counter.Grammar
import SlocModel.Counter.ScanLemmas
import SlocModel.Counter.TextLemmas
import SlocModel.Basic.ListLemmas
/-!
  C02, tier B — **classification agrees with the lexical ground truth**, as a theorem.

  A program of the C family (`//` line comments, non-nesting `/* … */` block comments; the
  syntax of C, C++, Java, JavaScript, TypeScript, Go, … in the built-in table; C# and Dart, with
  their additional `///`, follow in `Props/C02Congr.lean`) is a list of
  *chunks*: blank lines, code lines (words and string / character literals with escapes,
  optionally followed by a line comment), whole-line line comments, one-line block comments and
  multi-line block comments.  `render` writes the text, `truth` is the class of every line by
  construction.  `classify_render` proves, for **every** well-formed program of any length,
  that the counter model classifies every line as the ground truth says — in particular that
  comment markers inside string literals (`"/* // */"`), quote characters and escapes inside
  literals, and quote characters in line comments change nothing on that or any later line.

  The semantic side conditions are the hazards that `Props/C02.lean` refutes on the code as it is
  (and `known_findings.json` lists): no quote character inside block-comment text, no block
  opener behind a line-comment prefix; and an empty literal is not followed directly by its own
  quote character (that would be a triple quote to the string tracker).  The rest of `Chunk.ok`
  keeps the grammar unambiguous (a code line holds a non-blank character, a comment body holds no
  closer).  Directive text is excluded from comment text (directives have their own theorems in
  `Props/C02.lean`).
-/
namespace SlocModel.Props.C02
open SlocModel SlocModel.Counter

theorem isWs_props (c : Char) (h : isWs c = true) : notQuote c = true ∧ c ≠ '/' := by
  constructor
  · unfold notQuote
    simp only [Bool.and_eq_true, bne_iff_ne]
    constructor <;> (intro e; subst e; revert h; decide)
  · intro e; subst e; revert h; decide

theorem isQuote_not_ws (q : Char) (hq : isQuote q = true) : isWs q = false ∧ q ≠ '/' := by
  simp only [isQuote, Bool.or_eq_true, beq_iff_eq] at hq
  rcases hq with rfl | rfl <;> decide

theorem noDirectiveB_spec {line : List Char} (h : noDirectiveB line = true) :
    NoDirective cSyn line ∧ hasIgnoreFile cSyn line = false := by
  unfold noDirectiveB at h
  simp only [Bool.or_eq_true, Bool.not_eq_true', Bool.and_eq_true] at h
  rcases h with h | ⟨⟨⟨h1, h2⟩, h3⟩, h4⟩
  · exact ⟨Or.inl h, ignore_file_needs_comment cSyn line h⟩
  · refine ⟨Or.inr ⟨by simp [hasDirective, h1], by simp [hasDirective, h2], ?_⟩,
      by simp [hasIgnoreFile, hasDirective, h4]⟩
    simp [parseIgnoreNext, h3]

theorem renderLit_lineOk (q : Char) (b : List Item) : (renderLit q b).head? = some q := rfl

/-- tokens are stepped over by the search for a marker that starts with `/` -/
theorem toks_steps (nt : List Char) {ts : List Tok} {tail : List Char}
    (hok : ts.all Tok.ok = true) (hadj : adjOk ts = true)
    (htail : ∀ q, isQuote q = true → tail.head? ≠ some q) :
    Steps ('/' :: nt) none (renderToks ts) tail none := by
  induction ts with
  | nil => exact .nil
  | cons t r ih =>
    simp only [List.all_cons, Bool.and_eq_true] at hok
    cases t with
    | word w =>
      exact (Steps.safe '/' nt _ fun c hc => by simpa using List.all_and_left hok.1 c hc).trans
        (ih hok.2 (by simpa [adjOk] using hadj))
    | lit q b =>
      simp only [Tok.ok, Bool.and_eq_true] at hok
      obtain ⟨⟨hq, hb⟩, hr⟩ := hok
      have hadj' : adjOk r = true := by
        cases b with
        | nil => simp only [adjOk, Bool.and_eq_true] at hadj; exact hadj.2
        | cons _ _ => exact hadj
      refine (Steps.literal '/' nt q hq (isQuote_not_ws q hq).2 (List.all_and_left hb) ?_).trans
        (ih hr hadj')
      -- an empty literal: the next character, of the next token or of `tail`, is not its quote
      rintro rfl
      simp only [adjOk, Bool.and_eq_true, bne_iff_ne] at hadj
      show (renderToks r ++ tail).head? ≠ some q
      rw [List.head?_append]
      cases hrr : (renderToks r).head? with
      | none => exact htail q hq
      | some x => rw [hrr] at hadj; exact hadj.1

theorem go_skip_toks (nt : List Char) :
    ∀ (ts : List Tok) (tail : List Char) (i : Nat),
      ts.all Tok.ok = true → adjOk ts = true →
      (∀ q, isQuote q = true → tail.head? ≠ some q) →
      findOutsideGo ('/' :: nt) false false 0 none i (renderToks ts ++ tail) =
        findOutsideGo ('/' :: nt) false false 0 none (i + (renderToks ts).length) tail :=
  fun _ _ i hok hadj htail => toks_steps nt hok hadj htail i

theorem ws_steps (nt : List Char) {ws : List Char} (rest : List Char) (hws : wsOk ws = true) :
    Steps ('/' :: nt) none ws rest none :=
  Steps.safe '/' nt rest fun c hc => isWs_props c (List.all_and_left hws c hc)

theorem cSyn_start (line : List Char) :
    findMultiLineStart cSyn line =
      (findOutsideGo opener false false 0 none 0 line).map
        (fun pos => (⟨MultiLine.plain opener closer, pos, none⟩ : StartMatch)) := by
  -- the table has one entry; its start marker is neither empty nor a run of quotes
  show pickBest none (startCandidate line false (MultiLine.plain opener closer)) =
    (findOutside line opener false).map _
  simp only [startCandidate, MultiLine.plain, Bool.false_eq_true, if_false]
  cases findOutside line opener false <;> rfl

/-- the search walks over `pre` and the opener does not occur behind it: no block comment starts
    on the line -/
theorem cSyn_start_none {pre rest : List Char} (hs : Steps opener none pre rest none)
    (hno : containsSub opener rest = false) : findMultiLineStart cSyn (pre ++ rest) = none := by
  rw [cSyn_start, hs 0, go_none_of_findSub _ _ _ _ _ _ 0 (by simpa [containsSub] using hno)]
  rfl

theorem cSyn_single (t : List Char) :
    isSingleLineComment cSyn t = linePrefix.isPrefixOf t := by
  simp [isSingleLineComment, cSyn, linePrefix]

theorem containsEnd_quoteFree (t : List Char) (h : ∀ c ∈ t, notQuote c = true) :
    containsEnd t closer = containsSub closer t := by
  show (findOutsideGo closer false false 0 none 0 t).isSome = _
  rw [closer, go_noquote '*' ['/'] t 0 h]
  rfl

/-- the counter's state at the start of a file (written `{}` in `Props/C02.lean` and `Props/C04.lean`) -/
def st0 : St := {}
def stIn : St := { ml := .inComment 1 opener closer false }

theorem counting_stIn : Counting stIn := ⟨rfl, rfl⟩

theorem blank_neutral (ws : List Char) (h : wsOk ws = true) : Neutral cSyn ws .blank := by
  have ht := trim_all_ws ws (List.all_and_left h)
  refine .of_not_lineComment (by rw [ht]; rfl) (blank_is_blank cSyn ws st0 ⟨rfl, rfl⟩ rfl ht)
    (Or.inr ?_)
  have := cSyn_start_none (ws_steps ['*'] [] h) rfl
  rwa [List.append_nil] at this

/-- the first non-blank character of a token sequence is not `/`: it is a character of a word, or
    the quote of a literal (never the inside of one) -/
theorem toks_first {ts : List Tok} (hok : ts.all Tok.ok = true) {c : Char}
    (h : (renderToks ts).find? (fun c => !isWs c) = some c) : c ≠ '/' := by
  rw [renderToks, List.find?_flatMap] at h
  obtain ⟨t, ht, h⟩ := List.exists_of_findSome?_eq_some h
  have hok := List.all_eq_true.mp hok t ht
  cases t with
  | word w =>
    have := List.all_eq_true.mp hok c (List.mem_of_find?_eq_some h)
    simp only [Bool.and_eq_true, bne_iff_ne] at this
    exact this.1.2
  | lit q b =>
    simp only [Tok.ok, Bool.and_eq_true] at hok
    obtain ⟨hq, hne⟩ := isQuote_not_ws q hok.1
    rw [show (Tok.lit q b).render = q :: _ from rfl, List.find?_cons_of_pos (by simp [hq])] at h
    cases h
    exact hne

theorem code_neutral (toks : List Tok) (tail : List Char)
    (hok : toks.all Tok.ok = true) (hadj : adjOk toks = true)
    (hany : (renderToks toks).any (fun c => !isWs c) = true)
    (htail : tail = [] ∨ ∃ t, tail = linePrefix ++ t)
    (hno : containsSub opener tail = false) :
    Neutral cSyn (renderToks toks ++ tail) .code := by
  obtain ⟨c, hc⟩ := Option.isSome_iff_exists.mp (List.find?_isSome.mpr (List.any_eq_true.mp hany))
  obtain ⟨r, htrim⟩ : ∃ r, trim (renderToks toks ++ tail) = c :: r := by
    rw [← List.head?_eq_some_iff, head?_trim, List.find?_append, hc]
    rfl
  have hlc : isSingleLineComment cSyn (trim (renderToks toks ++ tail)) = false := by
    rw [cSyn_single, htrim]
    simp [linePrefix, List.isPrefixOf, Ne.symm (toks_first hok hc)]
  have hne : (trim (renderToks toks ++ tail)).isEmpty = false := by rw [htrim]; rfl
  have hq : ∀ q, isQuote q = true → tail.head? ≠ some q := by
    intro q hq
    rcases htail with rfl | ⟨t, rfl⟩
    · nofun
    · exact fun e => (isQuote_not_ws q hq).2 (Option.some.inj e).symm
  have hms := cSyn_start_none (toks_steps ['*'] hok hadj hq) hno
  exact .of_not_lineComment hlc (plain_is_code cSyn _ st0 ⟨rfl, rfl⟩ rfl hne hms hlc) (Or.inl hne)

/-- the lexical facts about a whole-line line comment `ws // text` whose text holds no block
    opener: no block comment starts on it, and it begins with the line-comment prefix -/
theorem lineComment_facts (ws t : List Char) (hws : wsOk ws = true)
    (hno : containsSub opener (linePrefix ++ t) = false) :
    findMultiLineStart cSyn (ws ++ (linePrefix ++ t)) = none ∧
      (trim (ws ++ (linePrefix ++ t))).isEmpty = false ∧
      isSingleLineComment cSyn (trim (ws ++ (linePrefix ++ t))) = true := by
  have htrim : trim (ws ++ (linePrefix ++ t)) = '/' :: '/' :: trimEnd t := by
    simp only [linePrefix, List.cons_append, List.nil_append]
    rw [trim_ws_cons ws '/' _ (List.all_and_left hws) (by decide), trimEnd_cons '/' t (by decide)]
  exact ⟨cSyn_start_none (ws_steps ['*'] _ hws) hno, by rw [htrim]; rfl,
    by rw [cSyn_single, htrim]; rfl⟩

theorem lineComment_neutral (ws t : List Char) (hws : wsOk ws = true)
    (hno : containsSub opener (linePrefix ++ t) = false)
    (hnd : noDirectiveB (ws ++ (linePrefix ++ t)) = true) :
    Neutral cSyn (ws ++ (linePrefix ++ t)) .comment := by
  obtain ⟨hnd1, hnd2⟩ := noDirectiveB_spec hnd
  obtain ⟨h1, h2, h3⟩ := lineComment_facts ws t hws hno
  exact .of_processLine hnd1 hnd2 (line_comment_is_comment cSyn _ st0 ⟨rfl, rfl⟩ rfl hnd1 h2 h1 h3) (Or.inl h2)

theorem opener_facts (ws rest : List Char) (hws : wsOk ws = true) :
    (trim (ws ++ (opener ++ rest))).isEmpty = false ∧
      isSingleLineComment cSyn (trim (ws ++ (opener ++ rest))) = false := by
  have htrim : trim (ws ++ (opener ++ rest)) = '/' :: '*' :: trimEnd rest := by
    simp only [opener, List.cons_append, List.nil_append]
    rw [trim_ws_cons ws '/' _ (List.all_and_left hws) (by decide), trimEnd_cons '*' rest (by decide)]
  rw [htrim]
  exact ⟨rfl, rfl⟩

theorem opener_line (ws rest : List Char) (hws : wsOk ws = true)
    (hq : ∀ c ∈ rest, notQuote c = true) :
    processLine cSyn (ws ++ (opener ++ rest)) st0 =
      (.comment, if containsSub closer rest then st0 else stIn) := by
  let m : StartMatch := ⟨MultiLine.plain opener closer, ws.length, none⟩
  have hfound : findMultiLineStart cSyn (ws ++ (opener ++ rest)) = some m := by
    rw [cSyn_start, opener, ws_steps ['*'] _ hws 0, Nat.zero_add]
    rfl
  have henter : enterFrom (ws ++ (opener ++ rest)) m .notIn =
      if containsEnd rest closer then .notIn else .inComment 1 opener closer false :=
    enter_iff_no_end_after_start m ws rest rfl rfl (show opener ≠ closer by decide) rfl
  obtain ⟨hne, hlc⟩ := opener_facts ws rest hws
  rw [block_start_is_comment ⟨rfl, rfl⟩ rfl (Or.inl hlc) hne hfound]
  show (_, St.mk (enterFrom _ _ .notIn) 0 false) = _
  rw [henter, containsEnd_quoteFree rest hq]
  cases containsSub closer rest <;> rfl

theorem inside_line (line : List Char) (hq : ∀ c ∈ line, notQuote c = true)
    (hnd : noDirectiveB line = true) :
    processLine cSyn line stIn = (.comment, if containsSub closer line then st0 else stIn) ∧
      hasIgnoreFile cSyn line = false := by
  refine ⟨?_, (noDirectiveB_spec hnd).2⟩
  rw [inside_is_comment counting_stIn rfl (noDirectiveB_spec hnd).1]
  show (_, St.mk (if containsEnd line closer then _ else _) 0 false) = _
  rw [containsEnd_quoteFree line hq]
  cases containsSub closer line <;> rfl

theorem closing_quoteFree (body trail : List Char) (hb : quoteFree body = true)
    (ht : wsOk trail = true) : ∀ c ∈ body ++ (closer ++ trail), notQuote c = true := by
  intro c hc
  simp only [List.mem_append] at hc
  rcases hc with hc | hc | hc
  · exact List.all_and_left hb c hc
  · simp only [closer, List.mem_cons, List.not_mem_nil, or_false] at hc
    rcases hc with rfl | rfl <;> decide
  · exact (isWs_props c (List.all_and_left ht c hc)).1

theorem blockOne_neutral (ws body trail : List Char) (hws : wsOk ws = true)
    (hb : quoteFree body = true) (ht : wsOk trail = true) :
    Neutral cSyn (ws ++ (opener ++ (body ++ (closer ++ trail)))) .comment := by
  have hp := opener_line ws _ hws (closing_quoteFree body trail hb ht)
  rw [containsSub_occurs, if_pos rfl] at hp
  obtain ⟨hne, hlc⟩ := opener_facts ws (body ++ (closer ++ trail)) hws
  exact .of_not_lineComment hlc hp (Or.inl hne)

/-- chunks that are one physical line and leave the counter's state untouched -/
def _root_.SlocModel.Counter.Chunk.isSingle : Chunk → Bool
  | .block .. => false
  | _ => true

/-- the one line of a single-line chunk -/
def _root_.SlocModel.Counter.Chunk.line : Chunk → List Char
  | .blank ws => ws
  | .code toks none => renderToks toks
  | .code toks (some t) => renderToks toks ++ (linePrefix ++ t)
  | .lineComment ws t => ws ++ (linePrefix ++ t)
  | .blockOne ws body trail => ws ++ (opener ++ (body ++ (closer ++ trail)))
  | .block ws body _ _ _ => ws ++ (opener ++ body)

theorem single_neutral (c : Chunk) (hs : c.isSingle = true) (hok : c.ok = true) :
    ∃ cls, c.truth = [cls] ∧ c.lines = [c.line] ∧ Neutral cSyn c.line cls := by
  cases c with
  | blank ws => exact ⟨_, rfl, rfl, blank_neutral ws hok⟩
  | code toks cmt =>
    simp only [Chunk.ok, Bool.and_eq_true] at hok
    obtain ⟨⟨⟨htoks, hadj⟩, hany⟩, hcmt⟩ := hok
    cases cmt with
    | none =>
      have := code_neutral toks [] htoks hadj hany (Or.inl rfl) (by decide)
      rw [List.append_nil] at this
      exact ⟨_, rfl, rfl, this⟩
    | some t =>
      simp only [Bool.and_eq_true, Bool.not_eq_true'] at hcmt
      exact ⟨_, rfl, rfl,
        code_neutral toks (linePrefix ++ t) htoks hadj hany (Or.inr ⟨t, rfl⟩) hcmt.2⟩
  | lineComment ws t =>
    simp only [Chunk.ok, Bool.and_eq_true, Bool.not_eq_true'] at hok
    exact ⟨_, rfl, rfl, lineComment_neutral ws t hok.1.1.1 hok.1.2 hok.2⟩
  | blockOne ws body trail =>
    simp only [Chunk.ok, Bool.and_eq_true] at hok
    exact ⟨_, rfl, rfl, blockOne_neutral ws body trail hok.1.1.1 hok.1.1.2 hok.2⟩
  | block => cases hs

theorem singles_neutral (vs : List Chunk) (hok : vs.all (fun v => v.isSingle && v.ok) = true) :
    ∀ l ∈ vs.map Chunk.line, ∃ cls, Neutral cSyn l cls := by
  intro l hl
  obtain ⟨v, hv, rfl⟩ := List.mem_map.mp hl
  have := List.all_eq_true.mp hok v hv
  simp only [Bool.and_eq_true] at this
  obtain ⟨cls, _, _, n⟩ := single_neutral v this.1 this.2
  exact ⟨cls, n⟩

theorem chunk_runs (c : Chunk) (hok : c.ok = true) : Runs cSyn c.lines st0 c.truth st0 := by
  cases hs : c.isSingle with
  | true =>
    obtain ⟨cls, ht, hl, n⟩ := single_neutral c hs hok
    rw [ht, hl]
    exact .single n.counted n.noIgnoreFile
  | false =>
    cases c with
    | block ws body mids cbody trail =>
      simp only [Chunk.ok, Bool.and_eq_true, Bool.not_eq_true'] at hok
      obtain ⟨⟨⟨⟨⟨⟨⟨hws, hbody⟩, hnc⟩, hmids⟩, hcbody⟩, _⟩, htrail⟩, hnd⟩ := hok
      have hopen := opener_line ws body hws (List.all_and_left hbody)
      rw [hnc, if_neg Bool.false_ne_true] at hopen
      have hclose := inside_line _ (closing_quoteFree cbody trail hcbody htrail) hnd
      rw [containsSub_occurs] at hclose
      refine .cons hopen (ignore_file_needs_comment cSyn _ (opener_facts ws body hws).2)
        (.append (.map fun m hm => ?_) (.single hclose.1 hclose.2))
      have := List.all_eq_true.mp hmids m hm
      simp only [Bool.and_eq_true, Bool.not_eq_true'] at this
      obtain ⟨⟨hmq, hmnc⟩, hmnd⟩ := this
      have := inside_line m (List.all_and_left hmq) hmnd
      rwa [hmnc] at this
    | _ => cases hs

theorem chunk_run (c : Chunk) (hok : c.ok = true) (rest : List (List Char)) (seen : Nat) :
    classifyLines cSyn (c.lines ++ rest) seen st0 =
      (classifyLines cSyn rest (seen + c.lines.length) st0).map (c.truth ++ ·) :=
  (chunk_runs c hok).classify rest seen

/-- a program written piece by piece, every line ended by LF: it is enough that each piece is
    classified as labelled from the initial state, comes back to it and holds neither LF nor CR -/
theorem classes_of_pieces {syn : Syntax} {α : Type} {f : α → List (List Char)}
    {g : α → List LineClass} {p : List α}
    (h : ∀ x ∈ p, Runs syn (f x) st0 (g x) st0 ∧ ∀ l ∈ f x, l.all lineChar = true) :
    classes syn ((p.flatMap f).flatMap (· ++ ['\n'])) = some (p.flatMap g) := by
  rw [classes, splitLines_join]
  · exact (Runs.flatMap fun x hx => (h x hx).1).classify_all 0
  · intro l hl
    obtain ⟨x, hx, hl⟩ := List.mem_flatMap.mp hl
    exact (h x hx).2 l hl

/-! ### from the text back to the lines: no piece of a chunk holds LF or CR -/

theorem lineChar_append {a b : List Char} (ha : a.all lineChar = true)
    (hb : b.all lineChar = true) : (a ++ b).all lineChar = true := by
  rw [List.all_append, ha, hb]; rfl

theorem toks_line (ts : List Tok) (h : ts.all Tok.ok = true) :
    (renderToks ts).all lineChar = true := by
  rw [renderToks, List.all_flatMap]
  refine List.all_eq_true.mpr fun t ht => ?_
  have hok := List.all_eq_true.mp h t ht
  cases t with
  | word w => exact List.all_and_right hok
  | lit q b =>
    simp only [Tok.ok, Bool.and_eq_true] at hok
    have hq : [q].all lineChar = true := by
      have := hok.1
      simp only [isQuote, Bool.or_eq_true, beq_iff_eq] at this
      rcases this with rfl | rfl <;> decide
    refine lineChar_append hq (lineChar_append ?_ hq)
    rw [renderBody, List.all_flatMap]
    refine List.all_eq_true.mpr fun it hit => ?_
    have := List.all_eq_true.mp hok.2 it hit
    simp only [Bool.and_eq_true] at this
    cases it with
    | plain c => simpa [Item.render, Item.lineOk] using this.2
    | esc c => simpa [Item.render, Item.lineOk, show lineChar '\\' = true from rfl] using this.2

theorem chunk_lines_ok (c : Chunk) (hok : c.ok = true) : ∀ l ∈ c.lines, l.all lineChar = true := by
  have ho : opener.all lineChar = true := rfl
  have hc : closer.all lineChar = true := rfl
  have hp : linePrefix.all lineChar = true := rfl
  cases c with
  | blank ws => exact List.forall_mem_singleton.mpr (List.all_and_right hok)
  | code toks cmt =>
    simp only [Chunk.ok, Bool.and_eq_true] at hok
    cases cmt with
    | none => exact List.forall_mem_singleton.mpr (toks_line toks hok.1.1.1)
    | some t =>
      simp only [Bool.and_eq_true] at hok
      exact List.forall_mem_singleton.mpr
        (lineChar_append (toks_line toks hok.1.1.1) (lineChar_append hp hok.2.1))
  | lineComment ws t =>
    simp only [Chunk.ok, Bool.and_eq_true] at hok
    exact List.forall_mem_singleton.mpr
      (lineChar_append (List.all_and_right hok.1.1.1) (lineChar_append hp hok.1.1.2))
  | blockOne ws body trail =>
    simp only [Chunk.ok, Bool.and_eq_true] at hok
    exact List.forall_mem_singleton.mpr (lineChar_append (List.all_and_right hok.1.1.1)
      (lineChar_append ho (lineChar_append (List.all_and_right hok.1.1.2)
        (lineChar_append hc (List.all_and_right hok.2)))))
  | block ws body mids cbody trail =>
    simp only [Chunk.ok, Bool.and_eq_true] at hok
    obtain ⟨⟨⟨⟨⟨⟨⟨hws, hbody⟩, _⟩, hmids⟩, hcbody⟩, _⟩, htrail⟩, _⟩ := hok
    simp only [Chunk.lines, List.mem_cons, List.mem_append, List.not_mem_nil, or_false]
    rintro l (rfl | hl | rfl)
    · exact lineChar_append (List.all_and_right hws) (lineChar_append ho (List.all_and_right hbody))
    · have := List.all_eq_true.mp hmids l hl
      simp only [Bool.and_eq_true] at this
      exact List.all_and_right this.1.1
    · exact lineChar_append (List.all_and_right hcbody) (lineChar_append hc (List.all_and_right htrail))

/-- **C02, token level.**  For every well-formed program of the C family — any number of
    chunks, any literals, any comment text within the side conditions — the counter classifies
    every physical line as the lexical ground truth says. -/
theorem classify_render (p : List Chunk) (hok : ∀ c ∈ p, c.ok = true) :
    AgreesWithTruth cSyn (render p) (truth p) :=
  classes_of_pieces fun c hc => ⟨chunk_runs c (hok c hc), chunk_lines_ok c (hok c hc)⟩

/-- the counters that `SlocCounter::count` reports are the tallies of the ground truth -/
theorem count_render (p : List Chunk) (hok : ∀ c ∈ p, c.ok = true) :
    count cSyn (render p) = .stats (tally (truth p)) := by
  simp [count, classify_render p hok]

/-- the built-in languages whose comment syntax is exactly the one of the theorem (regenerated
    from the registry of the tree under check on every run) -/
theorem cFamily_builtins :
    (Generated.builtins.filter (fun l => l.syn == cSyn)).map (·.name) =
      ["Go".toList, "JavaScript".toList, "TypeScript".toList, "C".toList, "C++".toList,
       "Java".toList, "Kotlin".toList, "Scala".toList, "JSX".toList] := by char_lists; decide +kernel

/-! ### non-vacuity: a program that meets every hypothesis and uses every construct -/

def sample : List Chunk :=
  [ .lineComment [] " it's a \"header\"".toList,
    .blank [' ', '\t'],
    .code [.word "int x = ".toList, .lit '"' [.plain '/', .plain '*', .esc '"', .plain '\''],
           .word ";".toList] none,
    .code [.word "char c = ".toList, .lit '\'' [.esc '\''], .word "; s = ".toList, .lit '"' [],
           .word " ".toList]
      (some " don't /".toList),
    .blockOne [' '] " one line // ".toList [' '],
    .block [] "* doc".toList [" * mid // x".toList, []] " ".toList [],
    .code [.word "return 0;".toList] none ]

example : ∀ c ∈ sample, c.ok = true := by unfold sample; char_lists; decide +kernel

example : truth sample =
    [.comment, .blank, .code, .code, .comment, .comment, .comment, .comment, .comment, .code] := by
  decide +kernel

/-- the theorem's conclusion on the sample, checked independently by evaluation -/
example : classes cSyn (render sample) = some (truth sample) := by
  unfold sample; char_lists; decide +kernel

end SlocModel.Props.C02
