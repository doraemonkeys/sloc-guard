import SlocModel.Counter.CountLemmas
import SlocModel.Counter.Grammar
import SlocModel.Generated.Languages
import SlocModel.Basic.Literals
/-!
  C02 — Line classification agrees with lexical ground truth, incl. ignore directives.

  Tier A: theorems about the classification ladder of `process_line`, for every comment
  syntax and every line.  Tier B (token level): a small lexical grammar with `render`/`truth`;
  the unrestricted statement is refuted by kernel-checked witnesses (the four findings the
  harness reproduces on the real code); the hazard-free sub-grammar is a theorem for the C family
  (`Props/C02Grammar.lean`) and is covered by the exhaustive small-scope correspondence run for
  the other languages (labelled a test in the evidence).
-/
namespace SlocModel.Props.C02
open SlocModel SlocModel.Counter

/-- the line takes none of the three directive branches of `process_line` -/
def NoDirective (syn : Syntax) (line : List Char) : Prop :=
  let t := trim line
  isSingleLineComment syn t = false ∨
    (hasDirective syn Generated.ignoreEndDirective t = false ∧
     hasDirective syn Generated.ignoreStartDirective t = false ∧
     parseIgnoreNext syn t = none)

/-- not inside an ignore region -/
def Counting (st : St) : Prop := st.inIgnoreBlock = false ∧ st.ignoreRemaining = 0

theorem processLine_noDirective {syn : Syntax} {line : List Char} {st : St}
    (h : NoDirective syn line) : processLine syn line st = ladder syn line st := by
  unfold processLine directiveOf
  rcases h with h | ⟨h1, h2, h3⟩
  · simp [h]
  · simp [h1, h2, h3]

/-- outside ignore regions the class comes from the block-comment state and the text alone -/
theorem processLine_counting {syn : Syntax} {line : List Char} {st : St}
    (hnd : NoDirective syn line) (hc : Counting st) :
    processLine syn line st =
      if st.ml.isIn then (.comment, { st with ml := updateInside line st.ml })
      else if (trim line).isEmpty then (.blank, st)
      else match findMultiLineStart syn line with
        | some m => (.comment, { st with ml := enterFrom line m st.ml })
        | none => if isSingleLineComment syn (trim line) then (.comment, st) else (.code, st) := by
  rw [processLine_noDirective hnd, ladder, if_neg (Bool.eq_false_iff.mp hc.1),
    if_neg (Nat.not_lt.mpr (Nat.le_of_eq hc.2))]
  rfl

theorem noDirective_of_blank (syn : Syntax) {line : List Char} (hb : trim line = []) :
    NoDirective syn line := by
  unfold NoDirective
  rw [hb]
  -- the search for a directive in the empty text evaluates to "not found", whatever the syntax
  exact Or.inr ⟨rfl, rfl, rfl⟩

/-- whitespace-only line outside comments and ignore regions: blank, state untouched -/
theorem blank_is_blank (syn : Syntax) (line : List Char) (st : St)
    (hc : Counting st) (hml : st.ml.isIn = false) (hb : trim line = []) :
    processLine syn line st = (.blank, st) := by
  rw [processLine_counting (noDirective_of_blank syn hb) hc, hml, hb]
  rfl

theorem inside_is_comment {syn : Syntax} {line : List Char} {st : St}
    (hc : Counting st) (hml : st.ml.isIn = true) (hnd : NoDirective syn line) :
    processLine syn line st = (.comment, { st with ml := updateInside line st.ml }) := by
  rw [processLine_counting hnd hc, if_pos hml]

/-- any non-directive line while inside a block comment is a comment -/
theorem in_comment_is_comment (syn : Syntax) (line : List Char) (st : St)
    (hc : Counting st) (hml : st.ml.isIn = true) (hnd : NoDirective syn line) :
    (processLine syn line st).1 = .comment := by
  rw [inside_is_comment hc hml hnd]

/-- a non-blank line on which a block comment starts is a comment, whatever precedes the opener -/
theorem block_start_is_comment {syn : Syntax} {line : List Char} {st : St} {m : StartMatch}
    (hc : Counting st) (hml : st.ml.isIn = false) (hnd : NoDirective syn line)
    (hne : (trim line).isEmpty = false) (hstart : findMultiLineStart syn line = some m) :
    processLine syn line st = (.comment, { st with ml := enterFrom line m st.ml }) := by
  rw [processLine_counting hnd hc, hml, hne, hstart]
  rfl

/-- for markers that differ, `after_start` is exactly the text behind the matched opener:
    nothing before it, and no character of the opener itself, takes part in the end search
    (the repaired start line, fix c10877c) -/
theorem afterStart_is_rest (m : StartMatch) (pre rest : List Char)
    (hpos : m.pos = pre.length) (hdyn : m.dynEnd = none) (hne : m.entry.start ≠ m.entry.stop) :
    m.afterStart (pre ++ (m.entry.start ++ rest)) = rest := by
  unfold StartMatch.afterStart StartMatch.endMarker
  simp only [hdyn, Option.getD_none, hne, if_false, hpos]
  simp

/-- a non-nesting block comment with distinct markers stays open after its first line exactly
    when the end marker does not occur (outside strings) behind the opener -/
theorem enter_iff_no_end_after_start (m : StartMatch) (pre rest : List Char)
    (hpos : m.pos = pre.length) (hdyn : m.dynEnd = none) (hne : m.entry.start ≠ m.entry.stop)
    (hnest : m.entry.nesting = false) :
    enterFrom (pre ++ (m.entry.start ++ rest)) m .notIn =
      if containsEnd rest m.entry.stop then .notIn else .inComment 1 m.entry.start m.entry.stop false := by
  unfold enterFrom
  simp only [hnest, Bool.false_eq_true, if_false, afterStart_is_rest m pre rest hpos hdyn hne]
  simp only [StartMatch.endMarker, hdyn, Option.getD_none, MLState.enter]
  cases containsEnd rest m.entry.stop <;> simp

/-- a non-blank line with no block start and no line-comment prefix is code, state untouched -/
theorem plain_is_code (syn : Syntax) (line : List Char) (st : St)
    (hc : Counting st) (hml : st.ml.isIn = false) (hne : (trim line).isEmpty = false)
    (hstart : findMultiLineStart syn line = none)
    (hlc : isSingleLineComment syn (trim line) = false) :
    processLine syn line st = (.code, st) := by
  rw [processLine_counting (Or.inl hlc) hc, hml, hne, hstart, hlc]
  rfl

/-- a whole-line line comment (no block start on it, not a directive) is a comment and leaves
    the state untouched — whatever text follows the prefix -/
theorem line_comment_is_comment (syn : Syntax) (line : List Char) (st : St)
    (hc : Counting st) (hml : st.ml.isIn = false) (hnd : NoDirective syn line)
    (hne : (trim line).isEmpty = false)
    (hstart : findMultiLineStart syn line = none)
    (hlc : isSingleLineComment syn (trim line) = true) :
    processLine syn line st = (.comment, st) := by
  rw [processLine_counting hnd hc, hml, hne, hstart, hlc]
  rfl

/-- code followed by a line comment: the line does not *start* with a comment prefix, so with
    no block start on it the line is code -/
theorem code_then_line_comment_is_code (syn : Syntax) (line : List Char) (st : St)
    (hc : Counting st) (hml : st.ml.isIn = false) (hne : (trim line).isEmpty = false)
    (hstart : findMultiLineStart syn line = none)
    (hlc : isSingleLineComment syn (trim line) = false) :
    (processLine syn line st).1 = .code := by
  rw [plain_is_code syn line st hc hml hne hstart hlc]

theorem ignored_in_block {syn : Syntax} {line : List Char} {st : St}
    (hb : st.inIgnoreBlock = true) (hnd : NoDirective syn line) :
    processLine syn line st = (.ignored, { st with ml := trackState syn line st.ml }) := by
  rw [processLine_noDirective hnd, ladder, if_pos hb]

/-- inside `ignore-start … ignore-end` every non-directive line is ignored and the block stays
    open -/
theorem ignore_block_step (syn : Syntax) (line : List Char) (st : St)
    (hb : st.inIgnoreBlock = true) (hnd : NoDirective syn line) :
    (processLine syn line st).1 = .ignored ∧ (processLine syn line st).2.inIgnoreBlock = true := by
  rw [ignored_in_block hb hnd]
  exact ⟨rfl, hb⟩

/-- `ignore-next`: while `k+1` lines remain to be ignored (outside an ignore block) a
    non-directive line is counted as ignored and exactly one is consumed -/
theorem ignore_next_step {syn : Syntax} {line : List Char} {st : St} {k : Nat}
    (hb : st.inIgnoreBlock = false) (hr : st.ignoreRemaining = k + 1)
    (hnd : NoDirective syn line) :
    processLine syn line st =
      (.ignored, { st with ignoreRemaining := k, ml := trackState syn line st.ml }) := by
  rw [processLine_noDirective hnd, ladder, if_neg (Bool.eq_false_iff.mp hb), hr,
    if_pos (Nat.succ_pos k)]
  rfl

/-- the directive lines themselves are comments and switch the region on / off -/
theorem ignore_start_end (syn : Syntax) (line : List Char) (st : St)
    (hlc : isSingleLineComment syn (trim line) = true) :
    (hasDirective syn Generated.ignoreEndDirective (trim line) = true →
        processLine syn line st = (.comment, { st with inIgnoreBlock := false })) ∧
    (hasDirective syn Generated.ignoreEndDirective (trim line) = false →
     hasDirective syn Generated.ignoreStartDirective (trim line) = true →
        processLine syn line st = (.comment, { st with inIgnoreBlock := true })) := by
  constructor
  · intro h; simp [processLine, directiveOf, hlc, h]
  · intro h1 h2; simp [processLine, directiveOf, hlc, h1, h2]

/-- an `ignore-next N` line is a comment and arms the count -/
theorem ignore_next_line {syn : Syntax} {line : List Char} {n : Nat} (st : St)
    (hlc : isSingleLineComment syn (trim line) = true)
    (he : hasDirective syn Generated.ignoreEndDirective (trim line) = false)
    (hs : hasDirective syn Generated.ignoreStartDirective (trim line) = false)
    (hn : parseIgnoreNext syn (trim line) = some n) :
    processLine syn line st = (.comment, { st with ignoreRemaining := n }) := by
  simp [processLine, directiveOf, hlc, he, hs, hn]

/-- a line that is not a whole-line line comment never acts as a directive: it cannot start or
    end an ignore block nor arm `ignore-next` (it can only consume one pending ignored line) -/
theorem directive_needs_comment (syn : Syntax) (line : List Char) (st : St)
    (h : isSingleLineComment syn (trim line) = false) :
    (processLine syn line st).2.inIgnoreBlock = st.inIgnoreBlock ∧
    (processLine syn line st).2.ignoreRemaining = st.ignoreRemaining - 1 ∨
    (processLine syn line st).2.inIgnoreBlock = st.inIgnoreBlock ∧
    (processLine syn line st).2.ignoreRemaining = st.ignoreRemaining := by
  have hnd : NoDirective syn line := Or.inl h
  by_cases hb : st.inIgnoreBlock = true
  · rw [ignored_in_block hb hnd]
    exact Or.inr ⟨rfl, rfl⟩
  · cases hr : st.ignoreRemaining with
    | succ k =>
      rw [ignore_next_step (by simpa using hb) hr hnd]
      exact Or.inl ⟨rfl, rfl⟩
    | zero =>
      -- whichever branch is taken, only the block-comment state moves
      rw [processLine_counting hnd ⟨by simpa using hb, hr⟩, h]
      cases st.ml.isIn <;> cases (trim line).isEmpty <;> cases findMultiLineStart syn line <;>
        exact Or.inr ⟨rfl, hr⟩

/-- … and is never what makes a file "ignored" -/
theorem ignore_file_needs_comment (syn : Syntax) (line : List Char)
    (h : isSingleLineComment syn (trim line) = false) : hasIgnoreFile syn line = false := by
  simp [hasIgnoreFile, hasDirective, h]

/-- block state is tracked through ignored lines exactly as through counted ones:
    `trackState` is the state component of the ordinary classification -/
theorem track_state_commutes (syn : Syntax) (line : List Char) (st : St)
    (hc : Counting st) (hnd : NoDirective syn line)
    (hne : (trim line).isEmpty = false ∨ findMultiLineStart syn line = none) :
    (processLine syn line st).2.ml = trackState syn line st.ml := by
  rw [processLine_counting hnd hc, trackState]
  cases st.ml.isIn with
  | true => rfl
  | false =>
    cases hf : findMultiLineStart syn line with
    | some m =>
      rw [hne.resolve_right (by rw [hf]; exact Option.some_ne_none m)]
      rfl
    | none => cases (trim line).isEmpty <;> cases isSingleLineComment syn (trim line) <;> rfl

/-- `ignore-next n` removes the next `n` lines (or all remaining ones): run on a list of
    non-directive lines from a state with `n` pending, the first `min n len` are ignored.  That
    the count is then used up and the following line is counted again is `pending_runs`. -/
theorem ignore_next_exact (syn : Syntax) (ls : List (List Char)) (st : St) (n seen : Nat)
    (hb : st.inIgnoreBlock = false) (hr : st.ignoreRemaining = n)
    (hnd : ∀ l ∈ ls, NoDirective syn l)
    (hnf : ∀ l ∈ ls, hasIgnoreFile syn l = false)
    (cs : List LineClass) (h : classifyLines syn ls seen st = some cs) :
    ∀ i, i < min n ls.length → cs[i]? = some .ignored := by
  induction ls generalizing st n seen cs with
  | nil => intro i hi; simp at hi
  | cons l ls ih =>
    intro i hi
    rw [List.forall_mem_cons] at hnd hnf
    cases n with
    | zero => simp at hi
    | succ k =>
      rw [classifyLines_cons, hnf.1, Bool.and_false, if_neg Bool.false_ne_true,
        ignore_next_step hb hr hnd.1, Option.map_eq_some_iff] at h
      obtain ⟨tl, htl, rfl⟩ := h
      cases i with
      | zero => rfl
      | succ j =>
        rw [List.length_cons, Nat.succ_min_succ] at hi
        -- `by exact hb`: elaborated after the other arguments have fixed the new state; a bare `hb`
        -- would unify the `_` with the old state
        exact ih _ k _ (by exact hb) rfl hnd.2 hnf.2 tl htl j (Nat.lt_of_succ_lt_succ hi)

/-- `ignore-file`: the file is reported ignored iff one of its first `directiveScanLines` lines
    carries the directive in a whole-line line comment -/
theorem ignore_file_iff (syn : Syntax) (ls : List (List Char)) (seen : Nat) (st : St) :
    classifyLines syn ls seen st = none ↔
      ∃ i, i < ls.length ∧ seen + i < Generated.directiveScanLines ∧
        ∃ l, ls[i]? = some l ∧ hasIgnoreFile syn l = true := by
  induction ls generalizing seen st with
  | nil => exact iff_of_false nofun nofun
  | cons l ls ih =>
    -- the directive is at index 0, or at `i + 1`, and then at `i` in the tail with one more line seen
    rw [classifyLines_cons, List.length_cons, Nat.exists_lt_succ_left]
    simp only [List.getElem?_cons_zero, List.getElem?_cons_succ, Option.some.injEq, exists_eq_left',
      Nat.add_zero, ← Nat.add_assoc, Nat.add_right_comm seen _ 1, Bool.and_eq_true, decide_eq_true_eq]
    split
    · exact iff_of_true rfl (Or.inl ‹_›)
    · rw [Option.map_eq_none_iff, or_iff_right ‹_›]
      exact ih _ _

/-- a line that is no directive and, met outside a block comment, leaves none open: counted it has
    class `cls` and the counter stays in its initial state, and while lines are being ignored it
    passes without trace -/
structure Neutral (syn : Syntax) (l : List Char) (cls : LineClass) : Prop where
  noDirective : NoDirective syn l
  noIgnoreFile : hasIgnoreFile syn l = false
  counted : processLine syn l {} = (cls, {})
  tracked : trackState syn l .notIn = .notIn

theorem Neutral.of_processLine {syn : Syntax} {l : List Char} {cls : LineClass} (hnd : NoDirective syn l)
    (hi : hasIgnoreFile syn l = false) (hp : processLine syn l {} = (cls, {}))
    (hne : (trim l).isEmpty = false ∨ findMultiLineStart syn l = none) : Neutral syn l cls := by
  refine ⟨hnd, hi, hp, ?_⟩
  have := track_state_commutes syn l {} ⟨rfl, rfl⟩ hnd hne
  rw [hp] at this
  exact this.symm

theorem Neutral.of_not_lineComment {syn : Syntax} {l : List Char} {cls : LineClass}
    (hlc : isSingleLineComment syn (trim l) = false) (hp : processLine syn l {} = (cls, {}))
    (hne : (trim l).isEmpty = false ∨ findMultiLineStart syn l = none) : Neutral syn l cls :=
  .of_processLine (Or.inl hlc) (ignore_file_needs_comment syn l hlc) hp hne

/-- while as many lines are pending as there are self-contained lines, of whatever kind, all are
    ignored; afterwards the counter is in its initial state -/
theorem pending_runs {syn : Syntax} {ls : List (List Char)}
    (h : ∀ l ∈ ls, ∃ cls, Neutral syn l cls) :
    Runs syn ls { ignoreRemaining := ls.length } (ls.map fun _ => .ignored) {} := by
  induction ls with
  | nil => exact .nil _
  | cons l r ih =>
    rw [List.forall_mem_cons] at h
    obtain ⟨⟨_, n⟩, hr⟩ := h
    refine .cons ?_ n.noIgnoreFile (ih hr)
    rw [ignore_next_step rfl rfl n.noDirective, n.tracked]

/-- inside `ignore-start … ignore-end` self-contained lines, of whatever kind, are ignored and the
    region stays open -/
theorem inBlock_runs {syn : Syntax} {ls : List (List Char)}
    (h : ∀ l ∈ ls, ∃ cls, Neutral syn l cls) :
    Runs syn ls { inIgnoreBlock := true } (ls.map fun _ => .ignored) { inIgnoreBlock := true } :=
  .map fun l hl => by
    obtain ⟨_, n⟩ := h l hl
    refine ⟨?_, n.noIgnoreFile⟩
    rw [ignored_in_block rfl n.noDirective, n.tracked]

/-! ### generated-table obligations (re-checked against /repo's language table on every run) -/

/-- every built-in block opener and closer, and every line prefix, is non-empty -/
theorem builtin_markers_nonempty :
    Generated.builtins.all (fun l =>
      l.syn.single.all (fun p => !p.isEmpty) &&
      l.syn.multi.all (fun m => !m.start.isEmpty && !m.stop.isEmpty)) = true := by decide +kernel

/-- the only built-in language whose block opener begins with one of its own line-comment
    prefixes is Lua (this is what the block-before-line order of the ladder is for) -/
theorem only_lua_overlaps :
    (Generated.builtins.filter (fun l =>
      l.syn.multi.any (fun m => m.kind != .rustRawString &&
        l.syn.single.any (fun p => p.isPrefixOf m.start)))).map (·.name) = [['L', 'u', 'a']] := by
  decide +kernel

/-- Python's two triple quotes are the only all-quote block markers -/
theorem only_python_quote_markers :
    (Generated.builtins.filter (fun l =>
      l.syn.multi.any (fun m => m.kind == .static && isMulticharQuote m.start))).map (·.name)
      = [['P', 'y', 't', 'h', 'o', 'n']] := by decide +kernel

/-! ### Tier B: the unrestricted token-level statement is false of the code as it is -/

def rustSyn : Syntax :=
  { single := [['/', '/'], ['/', '/', '/'], ['/', '/', '!']],
    multi := [{ MultiLine.plain ['/', '*'] ['*', '/'] with nesting := true },
              { start := ['r', '"'], stop := ['"'], nesting := false, atLineStart := false,
                kind := .rustRawString }] }
def pySyn : Syntax :=
  { single := [['#']],
    multi := [MultiLine.plain ['\'', '\'', '\''] ['\'', '\'', '\''],
              MultiLine.plain ['"', '"', '"'] ['"', '"', '"']] }

/-- the property's token-level claim for a given syntax, text and ground truth -/
abbrev AgreesWithTruth (syn : Syntax) (src : List Char) (truth : List LineClass) : Prop :=
  classes syn src = some truth

/-- block comments must end at their closer whatever text they contain — refuted:
    `/* don't */` never closes, the following code line is counted as comment -/
theorem c02_quote_in_block_fails :
    ¬ AgreesWithTruth cSyn "/* don't */\nint x;".toList [.comment, .code] := by char_lists; decide +kernel

/-- a block opener inside a line comment must not change later lines — refuted -/
theorem c02_opener_in_line_comment_fails :
    ¬ AgreesWithTruth rustSyn "// see src/*.rs\nfn f() {}".toList [.comment, .code] := by char_lists; decide +kernel

/-- a Python triple-quoted block spanning lines: its body is counted as code — refuted -/
theorem c02_multi_line_triple_quote_fails :
    ¬ AgreesWithTruth pySyn "\"\"\"doc\nbody\n\"\"\"".toList [.comment, .comment, .comment] := by
  char_lists; decide +kernel

/-- a triple-quote marker inside an ordinary string literal turns the code line into a comment -/
theorem c02_triple_quote_in_string_fails :
    ¬ AgreesWithTruth pySyn "s = \"a \'\'\' b\"".toList [.code] := by char_lists; decide +kernel

/-- the same programs without the hazard are classified as labelled (non-vacuity of the
    hazard-free fragment) -/
example : AgreesWithTruth cSyn "/* dont */\nint x;".toList [.comment, .code] := by char_lists; decide +kernel
example : AgreesWithTruth rustSyn "// see src.rs\nfn f() {}".toList [.comment, .code] := by char_lists; decide +kernel
example : AgreesWithTruth rustSyn "/* a /* b */ c */\nlet s = \"/* x\"; // y".toList
    [.comment, .code] := by char_lists; decide +kernel
example : AgreesWithTruth cSyn "// sloc-guard:ignore-next 1\nint x;\nint y;".toList
    [.comment, .ignored, .code] := by char_lists; decide +kernel

/-! ### the repaired start line (fix c10877c): only what follows the opener can close the comment -/

/-- `/*/ x` opens a comment (the `*/` that overlaps the opener is not an end), and the code after
    the real end is code again -/
example : AgreesWithTruth cSyn "/*/ x
 y
 */
int z;".toList [.comment, .comment, .comment, .code] := by char_lists; decide +kernel
example : AgreesWithTruth cSyn "/**/ int z;
int w;".toList [.comment, .code] := by char_lists; decide +kernel

end SlocModel.Props.C02
