import SlocModel.Props.C02Grammar
/-!
  C02, token level — `ignore-next N` in the C-family grammar: a directive line (a whole-line line
  comment that parses to `N`) followed by `N` single-line chunks of any kind.  The directive is a
  comment, exactly the next `N` lines are ignored — code, blank, comment or block comment alike —
  and the line after them is classified as if the directive were not there.
-/
namespace SlocModel.Props.C02
open SlocModel SlocModel.Counter

/-- the grammar with `ignore-next`; the prefix `i` (`IChunk`, `irender`, `itruth`, …) marks its
    counterparts of `Chunk`, `render`, `truth` -/
inductive IChunk where
  | plain (c : Chunk)
  /-- a directive line, the number it parses to, the single-line chunks it removes -/
  | ignoreNext (dir : List Char) (n : Nat) (victims : List Chunk)
  deriving Repr

def dirOk (dir : List Char) (n : Nat) : Bool :=
  dir.all lineChar && isSingleLineComment cSyn (trim dir) &&
    !containsSub Generated.ignoreEndDirective (trim dir) &&
    !containsSub Generated.ignoreStartDirective (trim dir) &&
    !containsSub Generated.ignoreFileDirective (trim dir) &&
    parseIgnoreNext cSyn (trim dir) == some n

def IChunk.lines : IChunk → List (List Char)
  | .plain c => c.lines
  | .ignoreNext dir _ vs => dir :: vs.map Chunk.line

def IChunk.truth : IChunk → List LineClass
  | .plain c => c.truth
  | .ignoreNext _ _ vs => .comment :: vs.map (fun _ => LineClass.ignored)

def IChunk.ok : IChunk → Bool
  | .plain c => c.ok
  | .ignoreNext dir n vs => dirOk dir n && vs.length == n && vs.all (fun v => v.isSingle && v.ok)

def irenderLines (p : List IChunk) : List (List Char) := p.flatMap IChunk.lines
def irender (p : List IChunk) : List Char := (irenderLines p).flatMap (· ++ ['\n'])
def itruth (p : List IChunk) : List LineClass := p.flatMap IChunk.truth

/-- the directive line: a comment that arms `ignore-next n` -/
theorem directive_line (dir : List Char) (n : Nat) (h : dirOk dir n = true) :
    processLine cSyn dir st0 = (.comment, { st0 with ignoreRemaining := n }) ∧
      hasIgnoreFile cSyn dir = false := by
  simp only [dirOk, Bool.and_eq_true, Bool.not_eq_true', beq_iff_eq] at h
  obtain ⟨⟨⟨⟨⟨_, h2⟩, h3⟩, h4⟩, h5⟩, h6⟩ := h
  exact ⟨ignore_next_line st0 h2 (by simp [hasDirective, h3]) (by simp [hasDirective, h4]) h6,
    by simp [hasIgnoreFile, hasDirective, h5]⟩

/-- the removed lines: each is `ignored`, whatever it is, and consumes one of the pending count -/
theorem victims_run (vs : List Chunk) (hok : vs.all (fun v => v.isSingle && v.ok) = true) :
    Runs cSyn (vs.map Chunk.line) { st0 with ignoreRemaining := vs.length }
      (vs.map fun _ => LineClass.ignored) st0 := by
  have := pending_runs (singles_neutral vs hok)
  rwa [List.length_map, List.map_map] at this

theorem ichunk_runs (c : IChunk) (hok : c.ok = true) : Runs cSyn c.lines st0 c.truth st0 := by
  cases c with
  | plain c => exact chunk_runs c hok
  | ignoreNext dir n vs =>
    simp only [IChunk.ok, Bool.and_eq_true, beq_iff_eq] at hok
    obtain ⟨⟨hd, rfl⟩, hvs⟩ := hok
    obtain ⟨hp, hi⟩ := directive_line dir _ hd
    exact .cons hp hi (victims_run vs hvs)

theorem ichunk_lines_ok (c : IChunk) (hok : c.ok = true) :
    ∀ l ∈ c.lines, l.all lineChar = true := by
  intro l hl
  cases c with
  | plain c => exact chunk_lines_ok c hok l hl
  | ignoreNext dir n vs =>
    simp only [IChunk.ok, Bool.and_eq_true, beq_iff_eq] at hok
    obtain ⟨⟨hd, _⟩, hvs⟩ := hok
    simp only [IChunk.lines, List.mem_cons, List.mem_map] at hl
    rcases hl with rfl | ⟨v, hv, rfl⟩
    · simp only [dirOk, Bool.and_eq_true] at hd
      exact hd.1.1.1.1.1
    · have := List.all_eq_true.mp hvs v hv
      simp only [Bool.and_eq_true] at this
      obtain ⟨_, _, hl, _⟩ := single_neutral v this.1 this.2
      exact chunk_lines_ok v this.2 v.line (by rw [hl]; exact List.mem_singleton_self _)

/-- **C02, token level, with `ignore-next`**: the directive line is a comment, exactly the next
    `N` lines are ignored whatever they are, and every other line keeps its ground-truth class -/
theorem classify_render_ignore (p : List IChunk) (hok : ∀ c ∈ p, c.ok = true) :
    AgreesWithTruth cSyn (irender p) (itruth p) :=
  classes_of_pieces fun c hc => ⟨ichunk_runs c (hok c hc), ichunk_lines_ok c (hok c hc)⟩

/-! non-vacuity: a directive that removes a code line, a blank line, a comment and a one-line
    block comment; the line after them is code again -/
def isample : List IChunk :=
  [ .plain (.code [.word "int a;".toList] none),
    .ignoreNext "  // sloc-guard:ignore-next 4 generated".toList 4
      [ .code [.word "int b = ".toList, .lit '"' [.plain '/', .plain '*']] (some " x".toList),
        .blank [' '],
        .lineComment [] " it's".toList,
        .blockOne [] " c ".toList [] ],
    .plain (.code [.word "int z;".toList] none) ]

example : ∀ c ∈ isample, c.ok = true := by unfold isample; char_lists; decide +kernel
example : itruth isample = [.code, .comment, .ignored, .ignored, .ignored, .ignored, .code] := by
  decide +kernel
example : classes cSyn (irender isample) = some (itruth isample) := by
  unfold isample; char_lists; decide +kernel

end SlocModel.Props.C02
