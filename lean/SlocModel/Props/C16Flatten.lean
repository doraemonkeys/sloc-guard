import SlocModel.Props.C16
/-!
  C16 — "a hand-flattened single file is equivalent to the chain".

  The canonical flattening of a chain is its effective configuration written out as one file
  (what `config show` prints).  These theorems prove that loading that file alone gives the same
  configuration back: a value without reset markers passes the position check and is left
  unchanged by stripping, and every successful resolution yields such a value.
-/
namespace SlocModel.Props.C16
open SlocModel SlocModel.Toml SlocModel.Extends

mutual
theorem noMarker_valid : ∀ v : Value, noMarker v = true → validReset v = true
  | .str _, _ => rfl
  | .other _ _, _ => rfl
  | .tbl fs, h => noMarkerTbl_valid fs h
  | .arr xs, h => noMarkerArr_validHead xs h
theorem noMarkerArr_validHead : ∀ xs : Arr, noMarkerArr xs = true → validResetHead xs = true
  | .nil, _ => rfl
  | .cons v rest, h => by
    simp only [noMarkerArr, Bool.and_eq_true] at h
    simp only [validResetHead, Bool.and_eq_true]
    exact ⟨noMarker_valid v h.1.2, noMarkerArr_validTail rest h.2⟩
theorem noMarkerArr_validTail : ∀ xs : Arr, noMarkerArr xs = true → validResetTail xs = true
  | .nil, _ => rfl
  | .cons v rest, h => by
    simp only [noMarkerArr, Bool.and_eq_true] at h
    simp only [validResetTail, Bool.and_eq_true]
    exact ⟨⟨h.1.1, noMarker_valid v h.1.2⟩, noMarkerArr_validTail rest h.2⟩
theorem noMarkerTbl_valid : ∀ fs : Tbl, noMarkerTbl fs = true → validResetTbl fs = true
  | .nil, _ => rfl
  | .cons _ v fs, h => by
    simp only [noMarkerTbl, Bool.and_eq_true] at h
    simp only [validResetTbl, Bool.and_eq_true]
    exact ⟨noMarker_valid v h.1, noMarkerTbl_valid fs h.2⟩
end

mutual
theorem noMarker_strip : ∀ v : Value, noMarker v = true → strip v = v
  | .str _, _ => rfl
  | .other _ _, _ => rfl
  | .tbl fs, h => congrArg Value.tbl (noMarkerTbl_strip fs h)
  | .arr xs, h => congrArg Value.arr (noMarkerArr_stripHead xs h)
theorem noMarkerArr_stripHead : ∀ xs : Arr, noMarkerArr xs = true → stripHead xs = xs
  | .nil, _ => rfl
  | .cons v rest, h => by
    simp only [noMarkerArr, Bool.and_eq_true, Bool.not_eq_true'] at h
    rw [stripHead, if_neg (Bool.eq_false_iff.1 h.1.1), noMarker_strip v h.1.2, noMarkerArr_stripArr rest h.2]
theorem noMarkerArr_stripArr : ∀ xs : Arr, noMarkerArr xs = true → stripArr xs = xs
  | .nil, _ => rfl
  | .cons v rest, h => by
    simp only [noMarkerArr, Bool.and_eq_true] at h
    rw [stripArr, noMarker_strip v h.1.2, noMarkerArr_stripArr rest h.2]
theorem noMarkerTbl_strip : ∀ fs : Tbl, noMarkerTbl fs = true → stripTbl fs = fs
  | .nil, _ => rfl
  | .cons _ v fs, h => by
    simp only [noMarkerTbl, Bool.and_eq_true] at h
    rw [stripTbl, noMarker_strip v h.1, noMarkerTbl_strip fs h.2]
end

/-- a marker-free value is a fixed point of the single-file load -/
theorem marker_free_loads_unchanged (r : Value) (h : noMarker r = true) : leafOnly r = .ok r := by
  unfold leafOnly
  rw [noMarker_valid r h, noMarker_strip r h]; rfl

/-- every successful resolution yields a marker-free value -/
theorem resolve_ok_noMarker (fs presets : List (Name × Value)) (fuel : Nat) (name : Name)
    (vis : List Name) (depth : Nat) (r : Value) (vis' : List Name)
    (h : resolve fs presets fuel name vis depth = .ok (r, vis')) : noMarker r = true := by
  have := resolve_result fs presets fuel name vis depth
  rwa [h] at this

/-- **the flattened file is equivalent to the chain**: the effective configuration of any chain
    (local files and presets, any depth), written out as a single file and loaded alone, is that
    same configuration -/
theorem flattened_equivalent (fs presets : List (Name × Value)) (fuel : Nat) (name : Name)
    (vis : List Name) (depth : Nat) (r : Value) (vis' : List Name)
    (h : resolve fs presets fuel name vis depth = .ok (r, vis')) : leafOnly r = .ok r :=
  marker_free_loads_unchanged r (resolve_ok_noMarker fs presets fuel name vis depth r vis' h)

/-- non-vacuity: the example chain of `Props/C16.lean` resolves, and its result loads unchanged -/
example : ∃ p, resolve exFs [] defaultFuel ['l'] [] 0 = .ok p ∧ leafOnly p.1 = .ok p.1 :=
  ⟨_, rfl, flattened_equivalent exFs [] defaultFuel ['l'] [] 0 _ _ rfl⟩

end SlocModel.Props.C16
