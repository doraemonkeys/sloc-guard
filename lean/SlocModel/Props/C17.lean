import SlocModel.Gate
import SlocModel.Generated.Presets
import SlocModel.Basic.Literals
import SlocModel.Basic.ListLemmas
/-!
  C17 — Configuration gate: invalid settings exit 2, never enforced, never a crash.

  `InDomain` is the documented domain written declaratively (per field, per rule); `gate` is the
  code's sequence of checks with its early returns.  The theorems say that the two coincide, that
  a rejection names a setting that really is outside the domain, that `check` never computes a
  verdict from a configuration outside the domain — also after the command-line overrides — and
  that `config validate` (and every other command) accepts exactly what `check` accepts.
-/
namespace SlocModel.Props.C17
open SlocModel SlocModel.Gate

/-- a content rule inside the domain: threshold within [0,1], warn point below the rule's limit
    (its own, or the inherited absolute one), a valid date, a pattern that compiles -/
def contentRuleOk (gWarnAt : Option Nat) (r : ContentRule) : Bool :=
  thrOk r.warnThreshold && warnBelow r.warnAt r.maxLines &&
  inheritedBelow r.warnAt r.warnThreshold gWarnAt r.maxLines && expiresOk r.expires

def structRuleOk (c : Cfg) (r : StructRule) : Bool :=
  thrOk r.warnThreshold && thrOk r.warnFilesThreshold && thrOk r.warnDirsThreshold &&
  nonNeg r.warnFilesAt && nonNeg r.warnDirsAt &&
  belowMax r.warnFilesAt r.maxFiles && belowMax r.warnDirsAt r.maxDirs &&
  belowMax (r.warnFilesAt <|> c.sWarnFilesAt) (r.maxFiles <|> c.sMaxFiles) &&
  belowMax (r.warnDirsAt <|> c.sWarnDirsAt) (r.maxDirs <|> c.sMaxDirs) &&
  expiresOk r.expires

def structRuleBuildOk (r : StructRule) : Bool :=
  limitOk r.maxFiles && limitOk r.maxDirs && limitOk r.maxDepth &&
  r.siblings.all siblingOk && !(r.hasAllow && r.hasDeny) && r.scopeOk && r.patternsOk

structure InDomain (c : Cfg) : Prop where
  threshold : F64.inUnit c.warnThreshold = true
  warnAt : warnBelow c.warnAt c.maxLines = true
  rules : ∀ r ∈ c.rules, contentRuleOk c.warnAt r = true ∧ r.patternOk = true
  globs : c.scannerExcludeOk = true ∧ c.contentExcludeOk = true ∧ c.sPatternsOk = true
  stats : c.reportExcludeOk = true ∧ c.breakdownByOk = true ∧ trendSinceOk c.trendSince = true
  sThresholds : thrOk c.sWarnThreshold = true ∧ thrOk c.sWarnFilesThreshold = true ∧
    thrOk c.sWarnDirsThreshold = true
  sWarnPoints : nonNeg c.sWarnFilesAt = true ∧ nonNeg c.sWarnDirsAt = true ∧
    belowMax c.sWarnFilesAt c.sMaxFiles = true ∧ belowMax c.sWarnDirsAt c.sMaxDirs = true
  sLimits : limitOk c.sMaxFiles = true ∧ limitOk c.sMaxDirs = true ∧ limitOk c.sMaxDepth = true
  sNoMix : (c.sHasAllow && c.sHasDeny) = false
  srules : ∀ r ∈ c.srules, structRuleOk c r = true ∧ structRuleBuildOk r = true

theorem firstErr_nil : firstErr [] = none := rfl

theorem firstErr_cons_none (x : Option Field) (xs : List (Option Field)) :
    firstErr (x :: xs) = none ↔ x = none ∧ firstErr xs = none := by
  cases x <;> simp [firstErr]

theorem need_none (ok : Bool) (f : Field) : need ok f = none ↔ ok = true := by
  cases ok <;> simp [need]

theorem contentRuleErr_none (gw : Option Nat) (i : Nat) (r : ContentRule) :
    contentRuleErr gw i r = none ↔ contentRuleOk gw r = true := by
  simp only [contentRuleErr, firstErr_cons_none, firstErr_nil, need_none, contentRuleOk,
    Bool.and_eq_true, and_true, and_assoc]

theorem structRuleSemErr_none (c : Cfg) (i : Nat) (r : StructRule) :
    structRuleSemErr c i r = none ↔ structRuleOk c r = true := by
  simp only [structRuleSemErr, firstErr_cons_none, firstErr_nil, need_none, structRuleOk,
    Bool.and_eq_true, and_true, and_assoc]

/-- the shape the per-rule loops of the gate share: the first error of `g i r` over the rules `r`
    with their indices `i` -/
def scan {α : Type} (g : Nat → α → Option Field) : List α → Nat → Option Field
  | [], _ => none
  | r :: rest, i =>
    match g i r with
    | some f => some f
    | none => scan g rest (i + 1)

theorem scan_none {α : Type} {g : Nat → α → Option Field} {rs : List α} {k : Nat} :
    scan g rs k = none ↔ ∀ j r, rs[j]? = some r → g (j + k) r = none := by
  fun_induction scan g rs k
  next => exact ⟨fun _ _ _ h => (nomatch h), fun _ => rfl⟩  -- no rules
  next r rest k f e =>  -- an error at the first rule
    refine ⟨nofun, fun h => ?_⟩
    have := h 0 r rfl
    rw [Nat.zero_add, e] at this
    cases this
  next r rest k e ih =>  -- none at the first rule
    rw [ih]
    constructor
    · intro h j x hx
      cases j with
      | zero => cases hx; exact (Nat.zero_add k).symm ▸ e
      | succ j => exact Nat.add_right_comm j 1 k ▸ h j x hx
    · exact fun h j x hx => Nat.add_right_comm j 1 k ▸ h (j + 1) x hx

theorem eq_scan {α : Type} {h : List α → Nat → Option Field} {g : Nat → α → Option Field}
    (h0 : ∀ k, h [] k = none)
    (h1 : ∀ r rest k, h (r :: rest) k = match g k r with | some f => some f | none => h rest (k + 1)) :
    ∀ rs k, h rs k = scan g rs k
  | [], k => h0 k
  | r :: rest, k => by rw [h1, scan, eq_scan h0 h1 rest]

theorem contentRulesErr_eq (gw : Option Nat) :
    ∀ rs k, contentRulesErr gw rs k = scan (contentRuleErr gw) rs k :=
  eq_scan (fun _ => rfl) fun _ _ _ => rfl

theorem structRulesSemErr_eq (c : Cfg) :
    ∀ rs k, structRulesSemErr c rs k = scan (structRuleSemErr c) rs k :=
  eq_scan (fun _ => rfl) fun _ _ _ => rfl

theorem ruleLimitsErr_eq : ∀ rs k, ruleLimitsErr rs k = scan (fun i r =>
    firstErr [need (limitOk r.maxFiles) (.srMaxFiles i), need (limitOk r.maxDirs) (.srMaxDirs i),
      need (limitOk r.maxDepth) (.srMaxDepth i)]) rs k :=
  eq_scan (fun _ => rfl) fun _ _ _ => rfl

theorem siblingsErr_eq (i : Nat) :
    ∀ ss j, siblingsErr i ss j = scan (fun j s => need (siblingOk s) (.sibling i j)) ss j :=
  eq_scan (fun _ => rfl) fun s _ _ => by rw [siblingsErr, need]; cases siblingOk s <;> rfl

theorem ruleSiblingsErr_eq :
    ∀ rs k, ruleSiblingsErr rs k = scan (fun i r => siblingsErr i r.siblings 0) rs k :=
  eq_scan (fun _ => rfl) fun _ _ _ => rfl

theorem ruleMixErr_eq :
    ∀ rs k, ruleMixErr rs k = scan (fun i r => need (!(r.hasAllow && r.hasDeny)) (.mixRule i)) rs k :=
  eq_scan (fun _ => rfl) fun r _ _ => by rw [ruleMixErr, need]; cases (r.hasAllow && r.hasDeny) <;> rfl

theorem semantics_none (c : Cfg) :
    semantics c = none ↔
      F64.inUnit c.warnThreshold = true ∧ warnBelow c.warnAt c.maxLines = true ∧
      (∀ r ∈ c.rules, contentRuleOk c.warnAt r = true) ∧
      c.scannerExcludeOk = true ∧ c.contentExcludeOk = true ∧
      (c.reportExcludeOk = true ∧ c.breakdownByOk = true ∧ trendSinceOk c.trendSince = true) ∧
      (thrOk c.sWarnThreshold = true ∧ thrOk c.sWarnFilesThreshold = true ∧
        thrOk c.sWarnDirsThreshold = true) ∧
      (nonNeg c.sWarnFilesAt = true ∧ nonNeg c.sWarnDirsAt = true ∧
        belowMax c.sWarnFilesAt c.sMaxFiles = true ∧ belowMax c.sWarnDirsAt c.sMaxDirs = true) ∧
      ∀ r ∈ c.srules, structRuleOk c r = true := by
  simp only [semantics, firstErr_cons_none, firstErr_nil, need_none, contentRulesErr_eq,
    structRulesSemErr_eq, scan_none, contentRuleErr_none, structRuleSemErr_none, List.forall_getElem?_iff,
    and_true, and_assoc]

theorem checkers_none (c : Cfg) :
    checkers c = none ↔
      (∀ r ∈ c.rules, r.patternOk = true) ∧ c.contentExcludeOk = true ∧
      (limitOk c.sMaxFiles = true ∧ limitOk c.sMaxDirs = true ∧ limitOk c.sMaxDepth = true) ∧
      (∀ r ∈ c.srules, limitOk r.maxFiles = true ∧ limitOk r.maxDirs = true ∧ limitOk r.maxDepth = true) ∧
      (∀ r ∈ c.srules, ∀ s ∈ r.siblings, siblingOk s = true) ∧
      (c.sHasAllow && c.sHasDeny) = false ∧
      (∀ r ∈ c.srules, (r.hasAllow && r.hasDeny) = false) ∧
      (∀ r ∈ c.srules, r.scopeOk = true ∧ r.patternsOk = true) ∧ c.sPatternsOk = true := by
  simp only [checkers, firstErr_cons_none, firstErr_nil, need_none, ruleLimitsErr_eq, ruleSiblingsErr_eq,
    ruleMixErr_eq, siblingsErr_eq, scan_none, List.forall_getElem?_iff,
    List.all_eq_true, Bool.and_eq_true, Bool.not_eq_true', and_true, and_assoc]

theorem gate_none (c : Cfg) : gate c = none ↔ semantics c = none ∧ checkers c = none := by
  unfold gate
  cases semantics c <;> simp

theorem structRuleBuildOk_iff (r : StructRule) : structRuleBuildOk r = true ↔
    (limitOk r.maxFiles = true ∧ limitOk r.maxDirs = true ∧ limitOk r.maxDepth = true) ∧
    (∀ s ∈ r.siblings, siblingOk s = true) ∧ (r.hasAllow && r.hasDeny) = false ∧
    r.scopeOk = true ∧ r.patternsOk = true := by
  simp only [structRuleBuildOk, Bool.and_eq_true, Bool.not_eq_true', List.all_eq_true, and_assoc]

/-- **the gate accepts exactly the documented domain** -/
theorem gate_ok_iff_inDomain (c : Cfg) : gate c = none ↔ InDomain c := by
  rw [gate_none, semantics_none, checkers_none]
  constructor
  · rintro ⟨⟨thr, wa, rs, scn, cont, st, sthr, swp, srs⟩, pat, _, slim, lim, sib, mix, rmix, rpat, spat⟩
    exact ⟨thr, wa, fun r hr => ⟨rs r hr, pat r hr⟩, ⟨scn, cont, spat⟩, st, sthr, swp, slim, mix,
      fun r hr => ⟨srs r hr, (structRuleBuildOk_iff r).2 ⟨lim r hr, sib r hr, rmix r hr, rpat r hr⟩⟩⟩
  · intro d
    have sr := fun r hr => (structRuleBuildOk_iff r).1 (d.srules r hr).2
    exact ⟨⟨d.threshold, d.warnAt, fun r hr => (d.rules r hr).1, d.globs.1, d.globs.2.1, d.stats,
        d.sThresholds, d.sWarnPoints, fun r hr => (d.srules r hr).1⟩,
      fun r hr => (d.rules r hr).2, d.globs.2.1, d.sLimits, fun r hr => (sr r hr).1,
      fun r hr => (sr r hr).2.1, d.sNoMix, fun r hr => (sr r hr).2.2.1, fun r hr => (sr r hr).2.2.2,
      d.globs.2.2⟩

/-! ### `check` never reaches a verdict outside the domain, flags included -/

theorem proceeds_iff (c : Cfg) (f : Flags) :
    checkOutcome c f = .proceeds ↔ gate c = none ∧ gate (override c f) = none := by
  unfold checkOutcome
  cases gate c <;> cases gate (override c f) <;> simp

/-- whenever `check` goes on to scan and judge files, both the file's configuration and the
    configuration after `--max-lines`, `--warn-threshold`, `--max-files`, `--max-dirs`,
    `--max-depth` are inside the domain -/
theorem proceeds_only_inDomain (c : Cfg) (f : Flags) (h : checkOutcome c f = .proceeds) :
    InDomain c ∧ InDomain (override c f) :=
  ((proceeds_iff c f).1 h).imp (gate_ok_iff_inDomain c).1 (gate_ok_iff_inDomain _).1

/-- the converse: a configuration outside the domain (before or after the flags) is rejected -/
theorem invalid_is_rejected (c : Cfg) (f : Flags) (h : ¬ InDomain c ∨ ¬ InDomain (override c f)) :
    checkOutcome c f ≠ .proceeds :=
  mt (proceeds_only_inDomain c f) (not_and_of_not_or_not h)

theorem override_noFlags (c : Cfg) : override c noFlags = c := rfl

/-- `config validate` (the load-time gate) accepts exactly the files `check` accepts -/
theorem validate_agrees_with_check (c : Cfg) :
    loadOutcome c = none ↔ checkOutcome c noFlags = .proceeds := by
  rw [proceeds_iff, override_noFlags, and_self]
  rfl

/-- a rejected configuration is outside the domain -/
theorem rejection_is_justified (c : Cfg) (f : Field) (h : gate c = some f) : ¬ InDomain c := by
  intro d
  rw [(gate_ok_iff_inDomain c).2 d] at h
  cases h

/-! ### a rejection names a setting that is really outside the domain -/

/-- what it means for the named setting to be at fault -/
def Offends (c : Cfg) : Field → Prop
  | .contentWarnThreshold => F64.inUnit c.warnThreshold = false
  | .contentWarnAt => warnBelow c.warnAt c.maxLines = false
  | .ruleWarnThreshold i => ∃ r, c.rules[i]? = some r ∧ thrOk r.warnThreshold = false
  | .ruleWarnAt i => ∃ r, c.rules[i]? = some r ∧ warnBelow r.warnAt r.maxLines = false
  | .ruleInheritedWarnAt i => ∃ r, c.rules[i]? = some r ∧ inheritedBelow r.warnAt r.warnThreshold c.warnAt r.maxLines = false
  | .ruleExpires i => ∃ r, c.rules[i]? = some r ∧ expiresOk r.expires = false
  | .scannerExclude => c.scannerExcludeOk = false
  | .contentExclude => c.contentExcludeOk = false
  | .reportExclude => c.reportExcludeOk = false
  | .breakdownBy => c.breakdownByOk = false
  | .trendSince => trendSinceOk c.trendSince = false
  | .sWarnThreshold => thrOk c.sWarnThreshold = false
  | .sWarnFilesThreshold => thrOk c.sWarnFilesThreshold = false
  | .sWarnDirsThreshold => thrOk c.sWarnDirsThreshold = false
  | .sWarnFilesAtNeg => nonNeg c.sWarnFilesAt = false
  | .sWarnDirsAtNeg => nonNeg c.sWarnDirsAt = false
  | .sWarnFilesAtMax => belowMax c.sWarnFilesAt c.sMaxFiles = false
  | .sWarnDirsAtMax => belowMax c.sWarnDirsAt c.sMaxDirs = false
  | .srWarnThreshold i => ∃ r, c.srules[i]? = some r ∧ thrOk r.warnThreshold = false
  | .srWarnFilesThreshold i => ∃ r, c.srules[i]? = some r ∧ thrOk r.warnFilesThreshold = false
  | .srWarnDirsThreshold i => ∃ r, c.srules[i]? = some r ∧ thrOk r.warnDirsThreshold = false
  | .srWarnFilesAtNeg i => ∃ r, c.srules[i]? = some r ∧ nonNeg r.warnFilesAt = false
  | .srWarnDirsAtNeg i => ∃ r, c.srules[i]? = some r ∧ nonNeg r.warnDirsAt = false
  | .srWarnFilesAtMax i => ∃ r, c.srules[i]? = some r ∧ belowMax r.warnFilesAt r.maxFiles = false
  | .srWarnDirsAtMax i => ∃ r, c.srules[i]? = some r ∧ belowMax r.warnDirsAt r.maxDirs = false
  | .srEffFiles i => ∃ r, c.srules[i]? = some r ∧
      belowMax (r.warnFilesAt <|> c.sWarnFilesAt) (r.maxFiles <|> c.sMaxFiles) = false
  | .srEffDirs i => ∃ r, c.srules[i]? = some r ∧
      belowMax (r.warnDirsAt <|> c.sWarnDirsAt) (r.maxDirs <|> c.sMaxDirs) = false
  | .srExpires i => ∃ r, c.srules[i]? = some r ∧ expiresOk r.expires = false
  | .rulePattern => ∃ r ∈ c.rules, r.patternOk = false
  | .sMaxFiles => limitOk c.sMaxFiles = false
  | .sMaxDirs => limitOk c.sMaxDirs = false
  | .sMaxDepth => limitOk c.sMaxDepth = false
  | .srMaxFiles i => ∃ r, c.srules[i]? = some r ∧ limitOk r.maxFiles = false
  | .srMaxDirs i => ∃ r, c.srules[i]? = some r ∧ limitOk r.maxDirs = false
  | .srMaxDepth i => ∃ r, c.srules[i]? = some r ∧ limitOk r.maxDepth = false
  | .sibling i j => ∃ r s, c.srules[i]? = some r ∧ r.siblings[j]? = some s ∧ siblingOk s = false
  | .mixGlobal => (c.sHasAllow && c.sHasDeny) = true
  | .mixRule i => ∃ r, c.srules[i]? = some r ∧ (r.hasAllow && r.hasDeny) = true
  | .structPattern => (∃ r ∈ c.srules, (r.scopeOk && r.patternsOk) = false) ∨ c.sPatternsOk = false

/-! a property of every error a sequence of checks can report -/

theorem firstErr_forall {P : Field → Prop} : ∀ {l : List (Option Field)},
    (∀ x ∈ l, ∀ f, x = some f → P f) → ∀ f, firstErr l = some f → P f
  | [], _, _, h => by cases h
  | none :: _, hl, f, h => firstErr_forall (fun x hx => hl x (List.mem_cons_of_mem _ hx)) f h
  | some g :: _, hl, f, h => hl _ List.mem_cons_self f h

theorem need_forall {P : Field → Prop} {ok : Bool} {fld : Field} :
    (∀ f, need ok fld = some f → P f) ↔ (ok = false → P fld) := by
  cases ok <;> simp [need]

theorem scan_forall {α : Type} {P : Field → Prop} {g : Nat → α → Option Field} {rs : List α} {k : Nat}
    (hg : ∀ j r, rs[j]? = some r → ∀ f, g (j + k) r = some f → P f) (f : Field)
    (h : scan g rs k = some f) : P f := by
  revert h
  fun_induction scan g rs k <;> intro h
  next => cases h  -- no rules
  next r rest k f' e => exact hg 0 r rfl f (h ▸ (Nat.zero_add k).symm ▸ e)  -- an error at the first rule
  next r rest k e ih =>  -- none at the first rule
    exact ih (fun j x hx f' hf => hg (j + 1) x hx f' (Nat.add_right_comm j 1 k ▸ hf)) h

/-- **the diagnostic names a setting that is at fault**: whatever field the gate names, that
    field's own condition fails (for a rule field: of the rule with that index) -/
theorem rejection_names_offender (c : Cfg) (f : Field) (h : gate c = some f) : Offends c f := by
  -- Every check of the sequence, if it fires, names an offender.  For a `need ok fld` the clause of
  -- `Offends` for `fld` is `ok = false` by definition (`id`), for the `all` and `!` conditions once
  -- `simp` has put `ok = false` in the clause's words; the loops go through `scan_forall`.
  -- `Offends` is kept out of `simp`: its equation lemmas are slow to generate.
  have sem : ∀ f, semantics c = some f → Offends c f := by
    apply firstErr_forall
    simp only [List.forall_mem_cons, List.not_mem_nil, false_imp_iff, implies_true, and_true, need_forall,
      contentRulesErr_eq, structRulesSemErr_eq]
    refine ⟨id, id, scan_forall fun j r hr => ?_, id, id, id, id, id, id, id, id, id, id, id, id,
      scan_forall fun j r hr => ?_⟩
    all_goals
      apply firstErr_forall
      simp only [List.forall_mem_cons, List.not_mem_nil, false_imp_iff, implies_true, and_true, need_forall]
      and_intros <;> exact fun h => ⟨r, hr, h⟩
  have chk : ∀ f, checkers c = some f → Offends c f := by
    apply firstErr_forall
    simp only [List.forall_mem_cons, List.not_mem_nil, false_imp_iff, implies_true, and_true, need_forall,
      ruleLimitsErr_eq, ruleSiblingsErr_eq, ruleMixErr_eq, siblingsErr_eq, List.all_eq_false,
      Bool.not_eq_true, Bool.not_eq_false']
    refine ⟨id, id, id, id, id, scan_forall fun j r hr => ?_,
      scan_forall fun j r hr => scan_forall fun m s hs => need_forall.2 fun h => ⟨r, s, hr, hs, h⟩, id,
      scan_forall fun j r hr => need_forall.2 fun h => ⟨r, hr, (Bool.not_eq_false' _).mp h⟩, .inl, .inr⟩
    apply firstErr_forall
    simp only [List.forall_mem_cons, List.not_mem_nil, false_imp_iff, implies_true, and_true, need_forall]
    and_intros <;> exact fun h => ⟨r, hr, h⟩
  unfold gate at h
  split at h
  · next g hs => exact sem f (h ▸ hs)
  · exact chk f h

/-! ### thresholds: what "within [0, 1]" means on IEEE-754 values -/

/-- the range test rejects NaN, both infinities and every negative number except `-0.0`, and
    accepts a finite non-negative value iff it is at most 1.0 -/
theorem threshold_range (bits : Nat) :
    F64.inUnit bits = true ↔
      ∃ neg u, F64.decode bits = .fin neg u ∧ (if neg then u = 0 else u ≤ F64.one) := by
  unfold F64.inUnit
  cases F64.decode bits with
  | nan => simp
  | inf n => simp
  | fin neg u => cases neg <;> simp

example : F64.inUnit 0x7FF8000000000000 = false := by decide +kernel          -- NaN
example : F64.inUnit 0x7FF0000000000000 = false := by decide +kernel          -- +inf
example : F64.inUnit 0xC00C000000000000 = false := by decide +kernel          -- -3.5
example : F64.inUnit 0x401E000000000000 = false := by decide +kernel          -- 7.5
example : F64.inUnit 0x3FF0000000000000 = true := by decide +kernel           -- 1.0
example : F64.inUnit 0x3FF0000000000001 = false := by decide +kernel          -- the next double after 1.0
example : F64.inUnit 0x8000000000000000 = true := by decide +kernel           -- -0.0

example : dateOk "2026-12-31".toList = true := by char_lists; decide +kernel
example : dateOk "junk".toList = false := by char_lists; decide +kernel
example : dateOk "2025-13-01".toList = false := by char_lists; decide +kernel
example : dateOk "2025-00-10".toList = false := by char_lists; decide +kernel
example : dateOk "2025-1-1".toList = true := by char_lists; decide +kernel
example : dateOk "99999-01-01".toList = false := by char_lists; decide +kernel
example : dateOk "2025-01-01-".toList = false := by char_lists; decide +kernel

example : dateOk "2024-02-29".toList = true := by char_lists; decide +kernel
example : dateOk "2023-02-29".toList = false := by char_lists; decide +kernel
example : dateOk "2100-02-29".toList = false := by char_lists; decide +kernel
example : dateOk "2000-02-29".toList = true := by char_lists; decide +kernel
example : dateOk "2025-04-31".toList = false := by char_lists; decide +kernel
example : dateOk "2025-02-30".toList = false := by char_lists; decide +kernel

theorem daysInMonth_le (y m : Nat) : 28 ≤ daysInMonth y m ∧ daysInMonth y m ≤ 31 := by
  fun_cases daysInMonth y m <;> omega

/-- an accepted date has three `-`-separated numeric parts naming a day that exists: month 1–12
    and day 1 … the length of that month in that year (29 February only in leap years) -/
theorem dateOk_shape (s : List Char) (h : dateOk s = true) :
    ∃ y m d yv mv dv, splitDash s [] = [y, m, d] ∧ parseUnsigned 65535 y = some yv ∧
      parseUnsigned 255 m = some mv ∧ parseUnsigned 255 d = some dv ∧
      1 ≤ mv ∧ mv ≤ 12 ∧ 1 ≤ dv ∧ dv ≤ daysInMonth yv mv := by
  revert h
  fun_cases dateOk s <;> intro h
  next y m d hs yv mv dv hd hm hy =>  -- three parts, each a number
    simp only [Bool.and_eq_true, decide_eq_true_eq] at h
    exact ⟨y, m, d, yv, mv, dv, hs, hy, hm, hd, h.1.1.1, h.1.1.2, h.1.2, h.2⟩
  all_goals cases h

/-! ### non-vacuity: a configuration inside the domain, and single-field mutations outside it -/

def exRule : ContentRule :=
  { patternOk := true, maxLines := 1000, warnThreshold := some 0x3FE0000000000000, warnAt := none,
    expires := some "2030-01-01".toList }
def exSRule : StructRule :=
  { scopeOk := true, maxFiles := some 30, maxDirs := none, maxDepth := some (-1), warnThreshold := none,
    warnFilesThreshold := none, warnDirsThreshold := none, warnFilesAt := some 25, warnDirsAt := none,
    hasAllow := true, hasDeny := false, patternsOk := true, expires := none,
    siblings := [.directed false ["{stem}.test.ts".toList], .group ["{stem}.c".toList, "{stem}.h".toList]] }
def exCfg : Cfg :=
  { warnThreshold := 0x3FECCCCCCCCCCCCD, maxLines := 600, warnAt := some 500, rules := [exRule],
    scannerExcludeOk := true, contentExcludeOk := true, reportExcludeOk := true, breakdownByOk := true,
    trendSince := some "7d".toList, sMaxFiles := some 50, sMaxDirs := some 10, sMaxDepth := none,
    sWarnThreshold := some 0x3FE999999999999A, sWarnFilesThreshold := none, sWarnDirsThreshold := none,
    sWarnFilesAt := some 40, sWarnDirsAt := none, sHasAllow := false, sHasDeny := true,
    sPatternsOk := true, srules := [exSRule] }

/-- the example passes at load; the flag examples below evaluate only what happens after that -/
theorem exCfg_ok : gate exCfg = none := by
  unfold exCfg exRule exSRule; char_lists; decide +kernel

example : gate exCfg = none := exCfg_ok
example : checkOutcome exCfg noFlags = .proceeds := by
  rw [checkOutcome, exCfg_ok, override_noFlags, exCfg_ok]
/-- `--warn-threshold 7.5` -/
example : checkOutcome exCfg { noFlags with warnThreshold := some 0x401E000000000000 } =
    .rejectedAfterFlags .contentWarnThreshold := by
  rw [checkOutcome, exCfg_ok]; decide +kernel
/-- `--max-lines 400` against `warn_at = 500` -/
example : checkOutcome exCfg { noFlags with maxLines := some 400 } = .rejectedAfterFlags .contentWarnAt := by
  rw [checkOutcome, exCfg_ok]; decide +kernel
/-- `--max-files 30` against `warn_files_at = 40` -/
example : checkOutcome exCfg { noFlags with maxFiles := some 30 } = .rejectedAfterFlags .sWarnFilesAtMax := by
  rw [checkOutcome, exCfg_ok]; decide +kernel
-- `gate` returns at its first error.  The three variations of the content rule fail before a string
-- of `exCfg` is evaluated; the others get past the date, the duration and the sibling patterns, so
-- `exCfg` is unfolded first for `char_lists` to reach its literals.
example : gate { exCfg with rules := [{ exRule with warnThreshold := some 0xC00C000000000000 }] } =
    some (.ruleWarnThreshold 0) := by decide +kernel
example : gate { exCfg with rules := [{ exRule with expires := some "junk".toList }] } =
    some (.ruleExpires 0) := by char_lists; decide +kernel
example : gate { exCfg with rules := [{ exRule with maxLines := 300, warnThreshold := none }] } =
    some (.ruleInheritedWarnAt 0) := by decide +kernel
example : gate { exCfg with sMaxFiles := some (-5) } = some .sMaxFiles := by
  unfold exCfg exRule exSRule; char_lists; decide +kernel
example : gate { exCfg with srules := [{ exSRule with maxFiles := none, warnFilesAt := some 60 }] } =
    some (.srEffFiles 0) := by
  unfold exCfg exRule exSRule; char_lists; decide +kernel
example : gate { exCfg with srules := [{ exSRule with siblings := [.group ["{stem}.c".toList]] }] } =
    some (.sibling 0 0) := by
  unfold exCfg exRule exSRule; char_lists; decide +kernel
example : gate { exCfg with srules := [{ exSRule with hasDeny := true }] } = some (.mixRule 0) := by
  unfold exCfg exRule exSRule; char_lists; decide +kernel

/-! ### every built-in preset passes the gate (regenerated from src/config/presets.rs) -/

theorem presets_pass : ∀ p ∈ Generated.presets, gate p.2 = none := by decide +kernel

end SlocModel.Props.C17
