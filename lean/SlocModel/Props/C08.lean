import SlocModel.PathSpelling
import SlocModel.Basic.Literals
/-!
  C08 — Verdicts do not depend on how paths are spelled.

  Every rule family matches `normalize (walked root rel)`, and baselines are keyed by
  `baselineKey (walked root rel)`.  The theorems say that these keys are the project-relative path
  whatever spelling of the target was typed.  `canonicalTargetL` is the repaired `canonical_target`,
  which knows a list of spellings of the working directory; `canonicalTarget` is its case of one
  spelling (`canonicalTargetL_single`).
-/
namespace SlocModel.Props.C08
open SlocModel SlocModel.PathSpelling

/-- a project-relative path: no empty and no `.` segment -/
def Plain (segs : List Seg) : Prop := ∀ s ∈ segs, s ≠ [] ∧ s ≠ dot

theorem clean_plain (segs : List Seg) (h : Plain segs) : clean segs = segs :=
  List.filter_eq_self.2 fun s hs => by simp [(h s hs).1, (h s hs).2]

theorem clean_idem (segs : List Seg) : clean (clean segs) = clean segs := by
  unfold clean; simp [List.filter_filter]

theorem clean_append (a b : List Seg) : clean (a ++ b) = clean a ++ clean b := by
  unfold clean; simp

theorem stripPrefix_append : ∀ (p rest : List Seg), stripPrefix p (p ++ rest) = some rest
  | [], _ => rfl
  | x :: xs, rest => by simp [stripPrefix, stripPrefix_append xs rest]

/-- **relative spellings**: two relative spellings with the same components after removing `.`
    segments and redundant separators (`src`, `./src`, `src/`, `./src/.`, `src//`) denote the same
    canonical target -/
theorem relative_spellings_agree (cwd : List Seg) (a b : List Seg) (h : clean a = clean b) :
    canonicalTarget cwd ⟨false, a⟩ = canonicalTarget cwd ⟨false, b⟩ := by
  simp [canonicalTarget, h]

theorem stripAny_append (pre : List (List Seg)) {cs : List (List Seg)} {t : List Seg}
    (hpre : ∀ d ∈ pre, stripPrefix (clean d) t = none) : stripAny (pre ++ cs) t = stripAny cs t := by
  induction pre with
  | nil => rfl
  | cons d pre ih =>
    simp only [List.cons_append, stripAny, hpre d (List.mem_cons_self ..)]
    exact ih fun d' h => hpre d' (List.mem_cons_of_mem _ h)

/-- **absolute spellings**: whichever spelling `c` of the working directory the absolute path goes
    through (no earlier one being a prefix of it), it denotes the target its relative spelling
    denotes -/
theorem absolute_agrees (pre : List (List Seg)) (c : List Seg) (post : List (List Seg)) (rel : List Seg)
    (hpre : ∀ d ∈ pre, stripPrefix (clean d) (clean (c ++ rel)) = none) :
    canonicalTargetL (pre ++ c :: post) ⟨true, c ++ rel⟩ =
      canonicalTargetL (pre ++ c :: post) ⟨false, rel⟩ := by
  simp only [canonicalTargetL, if_true, Bool.false_eq_true, if_false]
  rw [stripAny_append pre hpre, stripAny, clean_append, stripPrefix_append]

/-- with one spelling of the working directory the two functions agree -/
theorem canonicalTargetL_single (cwd : List Seg) (t : Target) :
    canonicalTargetL [cwd] t = canonicalTarget cwd t := by
  unfold canonicalTargetL canonicalTarget stripAny
  split
  · cases stripPrefix (clean cwd) (clean t.segs) <;> rfl
  · rfl

/-- **absolute spelling**: the absolute path of a target below the working directory denotes the
    same canonical target as its relative spelling -/
theorem absolute_spelling_agrees (cwd rel : List Seg) :
    canonicalTarget cwd ⟨true, cwd ++ rel⟩ = canonicalTarget cwd ⟨false, rel⟩ := by
  rw [← canonicalTargetL_single, ← canonicalTargetL_single]
  exact absolute_agrees [] cwd [] rel (fun _ h => nomatch h)

/-- **the shell's spelling of a symlinked working directory**: an absolute target below the
    logical working directory is reduced to the same project-relative target as the relative
    spelling, whenever the physical spelling is not itself a prefix of it -/
theorem logical_spelling_agrees (phys logical rel : List Seg)
    (hnot : stripPrefix (clean phys) (clean (logical ++ rel)) = none) :
    canonicalTargetL [phys, logical] ⟨true, logical ++ rel⟩ =
      canonicalTargetL [phys, logical] ⟨false, rel⟩ :=
  absolute_agrees [phys] logical [] rel (fun _ h => by cases List.mem_singleton.1 h; exact hnot)

/-- … and when the physical spelling is a prefix, it is the physical spelling that is removed
    (the kernel's answer comes first) -/
theorem physical_spelling_first (phys logical rel : List Seg) :
    canonicalTargetL [phys, logical] ⟨true, phys ++ rel⟩ =
      canonicalTargetL [phys, logical] ⟨false, rel⟩ :=
  absolute_agrees [] phys [logical] rel (fun _ h => nomatch h)

/-- the canonical target of a plain relative path is that path; of the project root it is `.` -/
theorem canonical_of_plain (cwd t : List Seg) (h : Plain t) :
    canonicalTarget cwd ⟨false, t⟩ = (false, orDot t) := by
  simp [canonicalTarget, clean_plain t h]

theorem canonical_root_spellings (cwd : List Seg) :
    canonicalTarget cwd ⟨false, []⟩ = (false, [dot]) ∧
    canonicalTarget cwd ⟨false, [dot]⟩ = (false, [dot]) ∧
    canonicalTarget cwd ⟨false, [dot, []]⟩ = (false, [dot]) ∧
    canonicalTarget cwd ⟨true, cwd⟩ = (false, [dot]) := by
  refine ⟨rfl, rfl, rfl, ?_⟩
  have := absolute_spelling_agrees cwd []
  rwa [List.append_nil] at this

theorem normalize_dot_cons (p : List Seg) : normalize (dot :: p) = p := by simp [normalize]

theorem normalize_cons_ne (s : Seg) (p : List Seg) (h : s ≠ dot) : normalize (s :: p) = s :: p := by
  simp [normalize, h]

theorem baselineKey_dot_cons (p : List Seg) (h : p ≠ []) : baselineKey (dot :: p) = p := by
  cases p with
  | nil => exact absurd rfl h
  | cons _ _ => simp [baselineKey]

theorem baselineKey_cons_ne (s : Seg) (p : List Seg) (h : s ≠ dot) : baselineKey (s :: p) = s :: p := by
  cases p <;> simp [baselineKey, h]

/-- **the matching key is the project-relative path**: for a plain target `t` and a plain entry
    `rel` below it, every rule family sees `t ++ rel`, whether the walk started at `.` (whole
    project) or at `t` -/
theorem match_key_is_project_relative (t rel : List Seg) (ht : Plain t) :
    normalize (walked (orDot t) rel) = t ++ rel := by
  cases t with
  | nil => exact normalize_dot_cons rel
  | cons s rest => exact normalize_cons_ne s _ (ht s (List.mem_cons_self ..)).2

/-- the whole-project run and a sub-directory run agree on the key of every common path -/
theorem project_and_subdir_keys_agree (t rel : List Seg) (ht : Plain t) (hr : Plain rel) :
    normalize (walked [dot] (t ++ rel)) = normalize (walked (orDot t) rel) :=
  (normalize_dot_cons _).trans (match_key_is_project_relative t rel ht).symm

/-- hence any verdict computed from the matching key is the same under all spellings -/
theorem verdict_spelling_invariant {σ : Type} (verdict : List Seg → σ) (cwd : List Seg)
    (a b : Target) (h : canonicalTarget cwd a = canonicalTarget cwd b) (rel : List Seg) :
    verdict (normalize (walked (canonicalTarget cwd a).2 rel)) =
      verdict (normalize (walked (canonicalTarget cwd b).2 rel)) := by
  rw [h]

/-- **baseline keys**: an entry written while checking the whole project is found when a
    sub-directory is checked (`rel` non-empty: a file or directory below the target; the proof
    uses neither `hr` nor `hne`) -/
theorem baseline_keys_agree (t rel : List Seg) (ht : Plain t) (hr : Plain rel) (hne : rel ≠ []) :
    baselineKey (walked [dot] (t ++ rel)) = baselineKey (walked (orDot t) rel) := by
  cases t with
  | nil => rfl
  | cons s rest =>
    exact (baselineKey_dot_cons _ (List.cons_ne_nil _ _)).trans
      (baselineKey_cons_ne s _ (ht s (List.mem_cons_self ..)).2).symm

/-- a baseline file written before the repair (keys with `./`) is read as if written after it -/
theorem old_baseline_keys_normalise (p : List Seg) (hp : Plain p) (hne : p ≠ []) :
    baselineKey (dot :: p) = p ∧ baselineKey p = p := by
  refine ⟨baselineKey_dot_cons p hne, ?_⟩
  cases p with
  | nil => rfl
  | cons s rest => exact baselineKey_cons_ne s rest (hp s (List.mem_cons_self ..)).2

example : canonicalTarget ["work".toList, "proj".toList] ⟨false, [dot, "src".toList, []]⟩ = (false, ["src".toList]) := by
  char_lists; decide +kernel
example : canonicalTarget ["work".toList, "proj".toList] ⟨true, [[], "work".toList, "proj".toList, "src".toList]⟩ =
    (false, ["src".toList]) := by char_lists; decide +kernel
example : canonicalTarget ["work".toList, "proj".toList] ⟨true, [[], "other".toList]⟩ = (true, ["other".toList]) := by
  char_lists; decide +kernel
example : normalize (walked [dot] ["src".toList, "a.rs".toList]) = ["src".toList, "a.rs".toList] := by
  char_lists; decide +kernel
example : Plain ["src".toList, "a.rs".toList] := by
  unfold Plain; char_lists; decide +kernel

end SlocModel.Props.C08
