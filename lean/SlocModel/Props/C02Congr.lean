import SlocModel.Props.C02Grammar
/-!
  C02, tier B — the same theorem for syntaxes that differ from the C family only in *additional*
  line-comment prefixes that begin with `//` (`///` in C# and Dart): the counter cannot tell them
  apart, so `classify_render` carries over.
-/
namespace SlocModel.Props.C02
open SlocModel SlocModel.Counter

section congr
variable (s1 s2 : Syntax) (hm : s1.multi = s2.multi)
  (hs : ∀ t, isSingleLineComment s1 t = isSingleLineComment s2 t)
include hm hs

/-- the counter consults a syntax only through `isSingleLineComment` and `findMultiLineStart` -/
theorem processLine_congr (line : List Char) (st : St) :
    processLine s1 line st = processLine s2 line st := by
  have hf : ∀ l, findMultiLineStart s1 l = findMultiLineStart s2 l := fun l => by
    unfold findMultiLineStart; rw [hm]
  simp only [processLine, directiveOf, ladder, trackState, hasDirective, parseIgnoreNext, hs, hf]

theorem classifyLines_congr (ls : List (List Char)) (seen : Nat) (st : St) :
    classifyLines s1 ls seen st = classifyLines s2 ls seen st := by
  induction ls generalizing seen st with
  | nil => rfl
  | cons l r ih =>
    rw [classifyLines_cons, classifyLines_cons, processLine_congr s1 s2 hm hs, ih, hasIgnoreFile,
      hasIgnoreFile, hasDirective, hasDirective, hs]

/-- two syntaxes with the same block markers and the same notion of "starts with a line-comment
    prefix" are indistinguishable to the counter -/
theorem classes_congr (src : List Char) : classes s1 src = classes s2 src := by
  unfold classes; exact classifyLines_congr s1 s2 hm hs _ _ _

end congr

/-- C# and Dart: `//` and `///` line comments, `/* */` blocks -/
def docSyn : Syntax :=
  { single := [['/', '/'], ['/', '/', '/']], multi := [MultiLine.plain ['/', '*'] ['*', '/']] }

theorem docSyn_single (t : List Char) :
    isSingleLineComment docSyn t = isSingleLineComment cSyn t := by
  simp only [isSingleLineComment, docSyn, cSyn, List.any_cons, List.any_nil, Bool.or_false]
  cases h3 : ['/', '/', '/'].isPrefixOf t with
  | false => simp
  | true =>
    have : ['/', '/'] <+: t :=
      (List.prefix_append ['/', '/'] ['/']).trans (List.isPrefixOf_iff_prefix.mp h3)
    simp [List.isPrefixOf_iff_prefix.mpr this]

/-- **C02, token level, for C# and Dart**: the programs of the C-family grammar are classified
    as their ground truth under the `//` + `///` syntax as well -/
theorem classify_render_doc (p : List Chunk) (hok : ∀ c ∈ p, c.ok = true) :
    AgreesWithTruth docSyn (render p) (truth p) :=
  (classes_congr docSyn cSyn rfl docSyn_single _).trans (classify_render p hok)

/-- the built-in languages with that syntax (regenerated table) -/
theorem docFamily_builtins :
    (Generated.builtins.filter (fun l => l.syn == docSyn)).map (·.name) =
      ["Dart".toList, "C#".toList] := by decide +kernel

end SlocModel.Props.C02
