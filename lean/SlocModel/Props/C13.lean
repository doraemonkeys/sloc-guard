import SlocModel.AtomicWrite
/-!
  C13 — State files survive a crash at any point of a save.
-/
namespace SlocModel.Props.C13
open SlocModel.AtomicWrite

/-- the rename is the one point at which the target changes: up to it the prior state is untouched -/
theorem before_rename (prior : Option Content) (new : Content) (p : Point) (k : Nat)
    (h : p.index < Point.index .renamed) : (crashAt prior new p k).target = prior := by
  cases p with
  | renamed | unlocked | done => exact absurd h (by decide)
  | _ => rfl

/-- once the rename has happened nothing of the old protocol state is left -/
theorem after_rename_complete (prior : Option Content) (new : Content) (p : Point) (k : Nat)
    (h : Point.index .renamed ≤ p.index) :
    crashAt prior new p k = { target := some new, temp := none } := by
  cases p with
  | renamed | unlocked | done => rfl
  | _ => exact absurd h (by decide)

/-- **crash safety**: whatever the prior state of the target (absent, valid, valid and large),
    whatever the new content, at every point of the protocol and after every number of bytes
    written, the file under the target name is either unchanged (or still absent) or the complete
    new content — never empty, truncated or partial. -/
theorem crash_safe (prior : Option Content) (new : Content) (p : Point) (k : Nat) :
    (crashAt prior new p k).target = prior ∨ (crashAt prior new p k).target = some new :=
  (Nat.lt_or_ge p.index (Point.index .renamed)).imp (before_rename prior new p k)
    fun h => by rw [after_rename_complete prior new p k h]

/-- a partially written temp file is never visible under the target name: whenever the temp file
    exists the target still holds the prior state -/
theorem temp_never_target (prior : Option Content) (new : Content) (p : Point) (k : Nat)
    (c : Content) (h : (crashAt prior new p k).temp = some c) :
    (crashAt prior new p k).target = prior :=
  (Nat.lt_or_ge p.index (Point.index .renamed)).elim (before_rename prior new p k)
    fun hr => by rw [after_rename_complete prior new p k hr] at h; cases h

/-- the next invocation loads the file without error and without discarding recorded entries:
    if the prior content (when present; `hp`, which the proof does not use) and the new content
    both decode, every loader returns the prior entries, the new entries, or — exactly when the file was and still is absent — what it
    returns for an absent file -/
theorem next_load_strict {α : Type} (parse : Content → Option α) (prior : Option Content)
    (new : Content) (p : Point) (k : Nat) (xn : α) (hn : parse new = some xn)
    (hp : ∀ c, prior = some c → ∃ x, parse c = some x) :
    loadStrict parse (crashAt prior new p k) = loadStrict parse { target := prior, temp := none } ∨
    loadStrict parse (crashAt prior new p k) = .entries xn := by
  rcases crash_safe prior new p k with h | h
  · left; simp [loadStrict, h]
  · right; simp [loadStrict, h, hn]

theorem next_load_lenient {α : Type} (parse : Content → Option α) (prior : Option Content)
    (new : Content) (p : Point) (k : Nat) (xn : α) (hn : parse new = some xn) :
    loadLenient parse (crashAt prior new p k) = loadLenient parse { target := prior, temp := none } ∨
    loadLenient parse (crashAt prior new p k) = .entries xn := by
  rcases crash_safe prior new p k with h | h
  · left; simp [loadLenient, h]
  · right; simp [loadLenient, h, hn]

/-- every point is covered (the enumeration the harness replays on the real binary) -/
theorem all_points_listed (p : Point) : p ∈ allPoints := by cases p <;> decide +kernel

/-! non-vacuity: an absent target stays absent until the rename, then holds the whole new content -/
example : (crashAt none [1, 2, 3, 4] .lockOpened 0).target = none := rfl
example : (crashAt none [1, 2, 3, 4] .midWrite 2) = { target := none, temp := some [1, 2] } := rfl
example : (crashAt (some [9]) [1, 2, 3, 4] .renamed 0).target = some [1, 2, 3, 4] := rfl

end SlocModel.Props.C13
