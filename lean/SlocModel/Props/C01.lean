import SlocModel.Check
import SlocModel.BaselineLemmas
import SlocModel.Props.C05
import SlocModel.Props.C06
/-!
  C01 — check is a sound and complete gate: exit code and statuses follow the rules.

  Statements about `SlocModel.Check.checkRun`, the composition of the per-file verdict (C05), the
  directory findings (C06), placement / sibling findings (C07, an input here) and the baseline
  pipeline (C09–C11).
-/
namespace SlocModel.Props.C01
open SlocModel SlocModel.Check SlocModel.Baseline

/-- "grandfathered": the loaded baseline records the path -/
def covered (loaded : Option Base) (k : Baseline.Key) : Bool :=
  match loaded with
  | some b => b.contains k
  | none => false

theorem masks_eq (loaded : Option Base) (r : Res) :
    masks loaded r = (r.kind.recordable && covered loaded r.path) := by
  cases loaded
  · exact (Bool.and_false _).symm
  · rfl

section
variable {c : Config} {files : List FileIn} {dirs : List DirIn} {pl sb : List Res}
  {disk : Option Base} {fl : Flags} {rs : List Res} {d' : Option Base} {e : Int} {st : List Baseline.Key}

/-- the exit status of a completed run, from the results before grandfathering -/
theorem exit_eq (h : checkRun c files dirs pl sb disk fl = .done rs d' e st) :
    e = if fl.warnOnly then 0
      else if (rawResults c files dirs pl sb).any (triggers (loadedOf disk fl)) ||
          (fl.wae && (rawResults c files dirs pl sb).any (·.status = .warning)) ||
          (fl.ratchet = some .strict && !st.isEmpty)
      then 1 else 0 := by
  obtain ⟨hrs, _, he, _⟩ := run_done h
  rw [he, hrs, exitCode_grandfather]; rfl

/-- a completed run exits 0 or 1; 2 is the configuration / usage error outcome only -/
theorem exit_is_0_or_1 (c : Config) (files : List FileIn) (dirs : List DirIn) (pl sb : List Res)
    (disk : Option Base) (f : Flags) (rs : List Res) (d' : Option Base) (e : Int) (st : List Baseline.Key)
    (h : checkRun c files dirs pl sb disk f = .done rs d' e st) : e = 0 ∨ e = 1 := by
  rw [exit_eq h]
  split
  · exact Or.inl rfl
  · split
    · exact Or.inr rfl
    · exact Or.inl rfl

/-- `--warn-only` forces 0 for anything but an error -/
theorem warn_only_exits_zero (c : Config) (files : List FileIn) (dirs : List DirIn) (pl sb : List Res)
    (disk : Option Base) (f : Flags) (rs : List Res) (d' : Option Base) (e : Int) (st : List Baseline.Key)
    (h : checkRun c files dirs pl sb disk f = .done rs d' e st) (hw : f.warnOnly = true) : e = 0 := by
  rw [exit_eq h, if_pos hw]

/-- **exit 1 exactly when** some result is failed and not grandfathered, or merely warned under
    warnings-as-errors, or a strict ratchet found the baseline outdated — and not `--warn-only` -/
theorem exit_one_iff (c : Config) (files : List FileIn) (dirs : List DirIn) (pl sb : List Res)
    (disk : Option Base) (f : Flags) (rs : List Res) (d' : Option Base) (e : Int) (st : List Baseline.Key)
    (h : checkRun c files dirs pl sb disk f = .done rs d' e st) :
    e = 1 ↔ f.warnOnly = false ∧
      ((∃ r ∈ rawResults c files dirs pl sb, r.status = .failed ∧ (r.kind.recordable && covered (loadedOf disk f) r.path) = false) ∨
       (f.wae = true ∧ ∃ r ∈ rawResults c files dirs pl sb, r.status = .warning) ∨
       (f.ratchet = some .strict ∧ st ≠ [])) := by
  have one : ∀ {c : Prop} [Decidable c], (if c then (1 : Int) else 0) = 1 ↔ c := by
    intro c _; split <;> simp [*]
  rw [exit_eq h]
  cases f.warnOnly
  · simp only [Bool.false_eq_true, if_false, true_and, one, Bool.or_eq_true, Bool.and_eq_true,
      List.any_eq_true, triggers_eq, masks_eq, decide_eq_true_eq, Bool.not_eq_true',
      List.isEmpty_eq_false_iff, or_assoc]
  · simp

/-- **soundness**: a run that exits 0 without `--warn-only` has grandfathered every failed result -/
theorem exit_zero_sound (h : checkRun c files dirs pl sb disk fl = .done rs d' 0 st)
    (hw : fl.warnOnly = false) {r : Res} (hr : r ∈ rawResults c files dirs pl sb)
    (hs : r.status = .failed) : (r.kind.recordable && covered (loadedOf disk fl) r.path) = true := by
  cases hm : (r.kind.recordable && covered (loadedOf disk fl) r.path) with
  | true => rfl
  | false => cases (exit_one_iff c files dirs pl sb disk fl rs d' 0 st h).2 ⟨hw, .inl ⟨r, hr, hs, hm⟩⟩

theorem mem_rawResults {r : Res} :
    r ∈ rawResults c files dirs pl sb ↔
      (∃ f ∈ files, contentRes c.content c.rules f = some r) ∨
      (c.structureOn = true ∧ (r ∈ pl ∨ (∃ d ∈ dirs, r ∈ dirRes c.sglobal c.srules d) ∨ r ∈ sb)) := by
  unfold rawResults
  cases c.structureOn <;> simp [List.mem_filterMap, List.mem_flatMap]

/-- a run that exits 0 has no failed raw result of a kind the baseline cannot record, wherever
    it comes from (placement, naming and sibling findings, and a directory's depth finding) -/
theorem exit_zero_unrecordable (h : checkRun c files dirs pl sb disk fl = .done rs d' 0 st)
    (hw : fl.warnOnly = false) {r : Res} (hr : r ∈ rawResults c files dirs pl sb)
    (hk : r.kind = .otherStructure) : r.status ≠ .failed := fun hs => by
  simpa [hk, Kind.recordable] using exit_zero_sound h hw hr hs

end

theorem contentRes_of_counted (c : Config) (f : FileIn) (h : counted f = true) :
    contentRes c.content c.rules f =
      some { path := f.key,
             status := toStatus (Threshold.verdict c.content c.rules f.ruleMatches f.stats).status,
             kind := .content, count := (Threshold.verdict c.content c.rules f.ruleMatches f.stats).eff } := by
  simp [contentRes, h]

/-- **soundness for files**: if `check` exits 0 (and was not told `--warn-only`), every in-scope,
    readable file with a known language and no ignore directive has an effective count at or
    below the limit the configuration assigns to it, or is grandfathered by the loaded baseline -/
theorem check_sound_files (c : Config) (files : List FileIn) (dirs : List DirIn) (pl sb : List Res)
    (disk : Option Base) (fl : Flags) (rs : List Res) (d' : Option Base) (st : List Baseline.Key)
    (h : checkRun c files dirs pl sb disk fl = .done rs d' 0 st) (hw : fl.warnOnly = false)
    (f : FileIn) (hf : f ∈ files) (hc : counted f = true) :
    (Threshold.verdict c.content c.rules f.ruleMatches f.stats).eff ≤
        (Threshold.verdict c.content c.rules f.ruleMatches f.stats).limit ∨
      covered (loadedOf disk fl) f.key = true := by
  refine (Nat.lt_or_ge _ _).elim (fun hgt => Or.inr ?_) Or.inl
  have hfail := (Props.C05.verdict_trichotomy c.content c.rules f.ruleMatches f.stats).1.2 hgt
  exact (Bool.and_eq_true_iff.mp (exit_zero_sound h hw
    (mem_rawResults.2 (Or.inl ⟨f, hf, contentRes_of_counted c f hc⟩)) (by rw [hfail]; rfl))).2

/-- **soundness for directories**: if `check` exits 0, no scanned directory exceeds a limit its
    rules assign to it unless the baseline grandfathers the directory -/
theorem check_sound_dirs (c : Config) (files : List FileIn) (dirs : List DirIn) (pl sb : List Res)
    (disk : Option Base) (fl : Flags) (rs : List Res) (d' : Option Base) (st : List Baseline.Key)
    (h : checkRun c files dirs pl sb disk fl = .done rs d' 0 st) (hw : fl.warnOnly = false)
    (hon : c.structureOn = true) (d : DirIn) (hd : d ∈ dirs) (x : Structure.Finding)
    (hx : x ∈ Structure.checkDir c.sglobal (c.srules.zip d.scopeMatches) d.stats)
    (hs : x.severity = .failed) : covered (loadedOf disk fl) d.key = true :=
  (Bool.and_eq_true_iff.mp (exit_zero_sound h hw (r := findingRes d.key x)
    (mem_rawResults.2 (Or.inr ⟨hon, Or.inr (Or.inl ⟨d, hd, List.mem_map.2 ⟨x, hx, rfl⟩⟩)⟩))
    (by simp [findingRes, hs]))).2

/-- soundness for directories in terms of the counts themselves (composing C06's
    `checkCount_limited`): with exit 0 a directory whose resolved file limit is `L` (not −1) holds at
    most `L` files, and likewise for sub-directories, unless it is grandfathered -/
theorem check_sound_dir_counts (c : Config) (files : List FileIn) (dirs : List DirIn) (pl sb : List Res)
    (disk : Option Base) (fl : Flags) (rs : List Res) (d' : Option Base) (st : List Baseline.Key)
    (h : checkRun c files dirs pl sb disk fl = .done rs d' 0 st) (hw : fl.warnOnly = false)
    (hon : c.structureOn = true) (d : DirIn) (hd : d ∈ dirs) :
    covered (loadedOf disk fl) d.key = true ∨
    ((∀ L, (Structure.resolveLimits c.sglobal (c.srules.zip d.scopeMatches)).fields.maxFiles = some L →
        L ≠ Generated.unlimited → d.stats.files ≤ Structure.asUsize L) ∧
     (∀ L, (Structure.resolveLimits c.sglobal (c.srules.zip d.scopeMatches)).fields.maxDirs = some L →
        L ≠ Generated.unlimited → d.stats.dirs ≤ Structure.asUsize L)) := by
  refine Decidable.or_iff_not_imp_left.mpr fun hcov => ?_
  -- a figure above its limit would be a failed finding of `d`, which `check_sound_dirs` rules out
  have none_failed := fun x hx hs =>
    hcov (check_sound_dirs c files dirs pl sb disk fl rs d' st h hw hon d hd x hx hs)
  refine ⟨fun L hL hne => Nat.le_of_not_lt fun hgt =>
      none_failed ⟨.files, .failed, d.stats.files, Structure.asUsize L⟩ ?_ rfl,
    fun L hL hne => Nat.le_of_not_lt fun hgt =>
      none_failed ⟨.dirs, .failed, d.stats.dirs, Structure.asUsize L⟩ ?_ rfl⟩
  all_goals simp [Structure.checkDir, hL, Props.C06.checkCount_limited hne, if_pos hgt]

/-- placement and sibling findings (C07) fail the run like any other failed result: with exit 0
    each one is of a recordable kind and grandfathered -/
theorem check_sound_placement (c : Config) (files : List FileIn) (dirs : List DirIn) (pl sb : List Res)
    (disk : Option Base) (fl : Flags) (rs : List Res) (d' : Option Base) (st : List Baseline.Key)
    (h : checkRun c files dirs pl sb disk fl = .done rs d' 0 st) (hw : fl.warnOnly = false)
    (hon : c.structureOn = true) (r : Res) (hr : r ∈ pl ∨ r ∈ sb) (hs : r.status = .failed) :
    (r.kind.recordable && covered (loadedOf disk fl) r.path) = true :=
  exit_zero_sound h hw
    (mem_rawResults.2 (Or.inr ⟨hon, hr.elim Or.inl (fun h => Or.inr (Or.inr h))⟩)) hs

/-- … and since the baseline records no placement, naming, depth or sibling violation (fix
    f5486fc), a run that exits 0 has **no** failed finding of these kinds at all, whatever the
    baseline holds -/
theorem check_sound_unrecordable (c : Config) (files : List FileIn) (dirs : List DirIn) (pl sb : List Res)
    (disk : Option Base) (fl : Flags) (rs : List Res) (d' : Option Base) (st : List Baseline.Key)
    (h : checkRun c files dirs pl sb disk fl = .done rs d' 0 st) (hw : fl.warnOnly = false)
    (hon : c.structureOn = true) (r : Res) (hr : r ∈ pl ∨ r ∈ sb) (hk : r.kind = .otherStructure) :
    r.status ≠ .failed :=
  exit_zero_unrecordable h hw
    (mem_rawResults.2 (Or.inr ⟨hon, hr.elim Or.inl (fun h => Or.inr (Or.inr h))⟩)) hk

/-! ### the statuses are exactly those of the documented rules -/

/-- a file outside the documented scope (hidden, excluded, or selected by neither extension nor
    rule) is never reported -/
theorem out_of_scope_unreported (c : Config) (f : FileIn) (h : inScope f = false) :
    contentRes c.content c.rules f = none := by
  simp [contentRes, counted, h]

/-- a counted file is reported once, with the status of the limit semantics -/
theorem status_of_counted (c : Config) (f : FileIn) (h : counted f = true) :
    ∃ r, contentRes c.content c.rules f = some r ∧ r.path = f.key ∧ r.kind = .content ∧
      r.count = Threshold.effective f.stats (Threshold.skipFor c.content c.rules f.ruleMatches).1
        (Threshold.skipFor c.content c.rules f.ruleMatches).2 ∧
      r.status = toStatus (Threshold.classify r.count (Threshold.limitFor c.content c.rules f.ruleMatches)
        (Threshold.warnPoint c.content c.rules f.ruleMatches (Threshold.limitFor c.content c.rules f.ruleMatches)).1) := by
  refine ⟨_, contentRes_of_counted c f h, rfl, rfl, ?_, ?_⟩ <;> simp only [Threshold.verdict]

/-- the baseline turns exactly the failed results it records into grandfathered ones and leaves
    every other status alone -/
theorem final_status (loaded : Option Base) (rs : List Res) (r : Res) (h : r ∈ rs) :
    ∃ x ∈ grandfather loaded rs, x.path = r.path ∧ x.kind = r.kind ∧ x.count = r.count ∧
      x.status = (if r.status = .failed ∧ (r.kind.recordable && covered loaded r.path) = true then .grandfathered else r.status) := by
  refine ⟨_, grandfather_eq_map loaded rs ▸ List.mem_map_of_mem h,
    (grandfatherOne_fields loaded r).1, (grandfatherOne_fields loaded r).2.1,
    (grandfatherOne_fields loaded r).2.2.1, ?_⟩
  unfold grandfatherOne
  simp only [masks_eq, Bool.and_eq_true, decide_eq_true_eq]
  split <;> rfl

/-- without structure checks (disabled, or `--files`) no directory, placement or sibling result
    is reported -/
theorem no_structure_results (c : Config) (files : List FileIn) (dirs : List DirIn) (pl sb : List Res)
    (h : c.structureOn = false) :
    rawResults c files dirs pl sb = files.filterMap (contentRes c.content c.rules) := by
  simp [rawResults, h]

/-! ### the limit of the statement: a file without a language is not counted -/

def exDockerfile : FileIn :=
  { key := "Dockerfile".toList, pruned := false, contentExcluded := false, extAllowed := false,
    ruleMatches := [true], langKnown := false, readable := true, ignoredByDirective := false,
    stats := { total := 90, code := 90, comment := 0, blank := 0, ignored := 0 } }
def exConfig : Config :=
  { content := { maxLines := 600, warnThreshold := 0x3FECCCCCCCCCCCCD, warnAt := none, skipComments := true, skipBlank := true },
    rules := [{ maxLines := 50, warnThreshold := none, warnAt := none, skipComments := none, skipBlank := none }],
    structureOn := false, sglobal := ⟨none, none, none, none, none, none, none, none⟩, srules := [] }
def plainFlags : Flags := { baselineGiven := false, update := none, ratchet := none, warnOnly := false, wae := false }

/-- KNOWN FINDING (unknown-language-skipped): a file that a rule puts in scope but whose name has
    no recognised extension is skipped silently — 90 lines against a limit of 50, exit 0 -/
theorem in_scope_file_without_language_is_skipped :
    inScope exDockerfile = true ∧
    (Threshold.verdict exConfig.content exConfig.rules exDockerfile.ruleMatches exDockerfile.stats).eff >
      (Threshold.verdict exConfig.content exConfig.rules exDockerfile.ruleMatches exDockerfile.stats).limit ∧
    checkRun exConfig [exDockerfile] [] [] [] none plainFlags = .done [] none 0 [] := by
  decide +kernel

/-- non-vacuity: the same file with a recognised language fails the run -/
example : checkRun exConfig [{ exDockerfile with langKnown := true }] [] [] [] none plainFlags =
    .done [{ path := "Dockerfile".toList, status := .failed, kind := .content, count := 90 }] none 1 [] := by
  decide +kernel

end SlocModel.Props.C01
