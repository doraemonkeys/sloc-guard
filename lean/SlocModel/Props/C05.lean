import SlocModel.Threshold
import SlocModel.Basic.F64Lemmas
import SlocModel.Basic.LastMatch
/-!
  C05 — Threshold verdicts, last-match-wins rule resolution and explain coherence.
  Every statement is about `SlocModel.Threshold`, the model of
  `src/checker/threshold.rs` that the correspondence harness compares with the real
  `ThresholdChecker` on every run.
-/
namespace SlocModel.Props.C05
open SlocModel SlocModel.Threshold

/-! ### failed / warning / passed are exactly the documented comparisons -/

theorem classify_spec {e l w : Nat} :
    (classify e l w = .failed ↔ e > l) ∧ (classify e l w = .warning ↔ w ≤ e ∧ e ≤ l) ∧
    (classify e l w = .passed ↔ e < w ∧ e ≤ l) := by
  unfold classify
  by_cases h1 : e > l
  · simp [h1, Nat.not_le.mpr h1]
  · by_cases h2 : e ≥ w
    · simp [h1, h2, Nat.not_lt.mp h1, Nat.not_lt.mpr h2]
    · simp [h1, h2, Nat.not_lt.mp h1, Nat.not_le.mp h2]

/-- the three verdicts of a file in terms of its effective count, limit and warn point -/
theorem verdict_trichotomy (g : Global) (rules : List Rule) (ms : List Bool) (s : Stats) :
    let v := verdict g rules ms s
    (v.status = .failed ↔ v.eff > v.limit) ∧
    (v.status = .warning ↔ v.warn ≤ v.eff ∧ v.eff ≤ v.limit) ∧
    (v.status = .passed ↔ v.eff < v.warn ∧ v.eff ≤ v.limit) := by
  -- `exact` alone would have to see through the `let`s of `verdict`: several times slower
  simp only [verdict]
  exact classify_spec

/-! ### the effective count: what `skip_comments` / `skip_blank` leave, ignored lines never -/

/-- code lines, plus comment / blank lines when configured to count them -/
theorem effective_def (g : Global) (rules : List Rule) (ms : List Bool) (s : Stats) :
    let v := verdict g rules ms s
    v.eff = s.code + (if v.skipC then 0 else s.comment) + (if v.skipB then 0 else s.blank) := rfl

/-- ignored lines (and the total) never influence the verdict -/
theorem ignored_never_counts (g : Global) (rules : List Rule) (ms : List Bool) (s : Stats)
    (t i : Nat) :
    verdict g rules ms { s with total := t, ignored := i } = verdict g rules ms s := rfl

/-! ### last declared matching rule wins -/

theorem no_match_iff (ms : List Bool) :
    lastMatch ms = none ↔ ∀ j : Nat, ms[j]? ≠ some true := by
  rw [lastMatch, lastMatchFrom_eq, lastSat_eq_none]
  constructor
  · intro h j hj; exact absurd (h true (List.mem_of_getElem? hj)) (by decide)
  · intro h y hy
    obtain ⟨j, hj⟩ := List.getElem?_of_mem hy
    cases y with
    | false => rfl
    | true => exact absurd hj (h j)

theorem last_match_wins (ms : List Bool) (i : Nat) :
    lastMatch ms = some i ↔ ms[i]? = some true ∧ ∀ j : Nat, i < j → ms[j]? ≠ some true := by
  rw [lastMatch, lastMatchFrom_eq, lastSat_eq_some]
  constructor
  · rintro ⟨_, x, ⟨hx, hp, hl⟩, rfl⟩
    cases hp
    exact ⟨hx, fun j hj h => by cases hl j hj true h⟩
  · rintro ⟨hx, hl⟩
    refine ⟨i, true, ⟨hx, rfl, fun j hj y hy => ?_⟩, rfl⟩
    cases y with
    | false => rfl
    | true => exact absurd hy (hl j hj)

/-- limit and skip flags come from the last matching rule, field by field, else from the
    globals -/
theorem limit_source (g : Global) (rules : List Rule) (ms : List Bool) :
    (∀ i r, lastMatch ms = some i → rules[i]? = some r →
        limitFor g rules ms = r.maxLines ∧
        skipFor g rules ms = (r.skipComments.getD g.skipComments, r.skipBlank.getD g.skipBlank)) ∧
    (lastMatch ms = none →
        limitFor g rules ms = g.maxLines ∧ skipFor g rules ms = (g.skipComments, g.skipBlank)) := by
  constructor
  · intro i r h1 h2; simp [limitFor, skipFor, selected, h1, h2]
  · intro h; simp [limitFor, skipFor, selected, h]

/-- absolute before percentage, rule before global — the four cases in order -/
theorem warn_precedence (g : Global) (rules : List Rule) (ms : List Bool) (l : Nat) :
    (∀ i r w, selected rules ms = some (i, r) → r.warnAt = some w →
        warnPoint g rules ms l = (w, .ruleAbsolute i)) ∧
    (∀ i r t, selected rules ms = some (i, r) → r.warnAt = none → r.warnThreshold = some t →
        warnPoint g rules ms l = (F64.pct r.maxLines t, .rulePercentage i t)) ∧
    (∀ w, (selected rules ms = none ∨
            ∃ i r, selected rules ms = some (i, r) ∧ r.warnAt = none ∧ r.warnThreshold = none) →
        g.warnAt = some w → warnPoint g rules ms l = (w, .globalAbsolute)) ∧
    ((selected rules ms = none ∨
            ∃ i r, selected rules ms = some (i, r) ∧ r.warnAt = none ∧ r.warnThreshold = none) →
        g.warnAt = none →
        warnPoint g rules ms l = (F64.pct l g.warnThreshold, .globalPercentage g.warnThreshold)) := by
  refine ⟨?_, ?_, ?_, ?_⟩
  · intro i r w h1 h2; simp [warnPoint, h1, h2]
  · intro i r t h1 h2 h3; simp [warnPoint, h1, h2, h3]
  · intro w h hw
    rcases h with h | ⟨i, r, h1, h2, h3⟩
    · simp [warnPoint, h, hw]
    · simp [warnPoint, h1, h2, h3, hw]
  · intro h hw
    rcases h with h | ⟨i, r, h1, h2, h3⟩
    · simp [warnPoint, h, hw]
    · simp [warnPoint, h1, h2, h3, hw]

theorem classify_mono {e e' l l' w w' : Nat} (he : e ≤ e') (hl : l' ≤ l) (hw : w' ≤ w) :
    (classify e l w).rank ≤ (classify e' l' w').rank := by
  unfold classify
  by_cases h1 : e > l
  · rw [if_pos h1, if_pos (Nat.lt_of_le_of_lt hl (Nat.lt_of_lt_of_le h1 he))]
    exact Nat.le_refl _
  · rw [if_neg h1]
    by_cases h2 : e ≥ w
    · rw [if_pos h2, if_pos (Nat.le_trans hw (Nat.le_trans h2 he))]
      split
      · decide
      · exact Nat.le_refl _
    · rw [if_neg h2]; exact Nat.zero_le _

theorem effective_mono {s s' : Stats} {c b : Bool}
    (hc : s.code ≤ s'.code) (hm : s.comment ≤ s'.comment) (hb : s.blank ≤ s'.blank) :
    effective s c b ≤ effective s' c b :=
  Nat.add_le_add (Nat.add_le_add hc (by cases c; exact hm; exact Nat.le_refl _))
    (by cases b; exact hb; exact Nat.le_refl _)

/-- more lines never improve the verdict -/
theorem verdict_mono_count (g : Global) (rules : List Rule) (ms : List Bool) (s s' : Stats)
    (hc : s.code ≤ s'.code) (hm : s.comment ≤ s'.comment) (hb : s.blank ≤ s'.blank) :
    (verdict g rules ms s).status.rank ≤ (verdict g rules ms s').status.rank := by
  simp only [verdict]
  exact classify_mono (effective_mono hc hm hb) (Nat.le_refl _) (Nat.le_refl _)

/-- only the global percentage moves with the limit handed in -/
theorem warnPoint_mono (g : Global) (rules : List Rule) (ms : List Bool) {l l' : Nat} (h : l ≤ l') :
    (warnPoint g rules ms l).1 ≤ (warnPoint g rules ms l').1 := by
  unfold warnPoint
  cases g.warnAt with
  | some w => exact Nat.le_refl _
  | none =>
    cases selected rules ms with
    | none => exact F64.pct_mono_limit _ h
    | some p =>
      obtain ⟨i, r⟩ := p
      dsimp only
      cases r.warnAt with
      | some w => exact Nat.le_refl _
      | none =>
        cases r.warnThreshold with
        | some t => exact Nat.le_refl _
        | none => exact F64.pct_mono_limit _ h

/-- raising the global limit never worsens the verdict of any file -/
theorem verdict_mono_global_limit (g : Global) (rules : List Rule) (ms : List Bool) (s : Stats)
    (l' : Nat) (h : g.maxLines ≤ l') :
    (verdict { g with maxLines := l' } rules ms s).status.rank ≤
      (verdict g rules ms s).status.rank := by
  have hl : limitFor g rules ms ≤ limitFor { g with maxLines := l' } rules ms := by
    unfold limitFor
    cases selected rules ms with
    | none => exact h
    | some p => exact Nat.le_refl _
  simp only [verdict]
  exact classify_mono (Nat.le_refl _) hl (warnPoint_mono g rules ms hl)

/-- raising the limit of the selected rule never worsens the verdict -/
theorem verdict_mono_rule_limit (g : Global) (rules rules' : List Rule) (ms : List Bool)
    (s : Stats) (i : Nat) (r : Rule) (l' : Nat)
    (hsel : selected rules ms = some (i, r))
    (hsel' : selected rules' ms = some (i, { r with maxLines := l' }))
    (h : r.maxLines ≤ l') :
    (verdict g rules' ms s).status.rank ≤ (verdict g rules ms s).status.rank := by
  simp only [verdict, skipFor, limitFor, warnPoint, hsel, hsel']
  refine classify_mono (Nat.le_refl _) h ?_
  cases r.warnAt with
  | some w => exact Nat.le_refl _
  | none =>
    cases r.warnThreshold with
    | some t => exact F64.pct_mono_limit _ h
    | none =>
      cases g.warnAt with
      | some w => exact Nat.le_refl _
      | none => exact F64.pct_mono_limit _ h

/-! ### warn point stays at or below the limit for validated configurations -/

/-- what `validate_config_semantics` guarantees about `[content]` (C17 gate), plus the
    assumption that limits are exactly representable as doubles (< 2^53 lines). -/
structure Validated (g : Global) (rules : List Rule) : Prop where
  gThreshold : F64.inUnit g.warnThreshold = true
  gWarnAt : ∀ w, g.warnAt = some w → w < g.maxLines
  gSmall : g.maxLines < 2 ^ 53
  rWarnAt : ∀ r ∈ rules, ∀ w, r.warnAt = some w → w < r.maxLines
  rSmall : ∀ r ∈ rules, r.maxLines < 2 ^ 53
  /-- rule thresholds inside [0,1] (checked by the gate since fix eb03b04) -/
  rThreshold : ∀ r ∈ rules, ∀ t, r.warnThreshold = some t → F64.inUnit t = true

theorem selected_mem {rules : List Rule} {ms : List Bool} {i : Nat} {r : Rule}
    (h : selected rules ms = some (i, r)) : r ∈ rules := by
  revert h
  fun_cases selected rules ms <;> intro h <;> cases h
  next hr => exact List.mem_of_getElem? hr  -- the last match is a rule

/-- the warn point never exceeds the limit.  `Validated` bounds an absolute warn count by the
    limit of its own level only; a rule that sets no warn point inherits `content.warn_at`, which
    nothing there compares with the rule's `max_lines`.  `hga` assumes that comparison (the gate
    makes it, `Gate.inheritedBelow`), and "partial" refers to this extra hypothesis -/
theorem warn_le_limit_partial (g : Global) (rules : List Rule) (ms : List Bool)
    (hv : Validated g rules)
    (hga : ∀ i r w, selected rules ms = some (i, r) → r.warnAt = none →
        r.warnThreshold = none → g.warnAt = some w → w ≤ r.maxLines) :
    (warnPoint g rules ms (limitFor g rules ms)).1 ≤ limitFor g rules ms := by
  unfold warnPoint limitFor
  cases hs : selected rules ms with
  | none =>
    cases hw : g.warnAt with
    | some w => exact Nat.le_of_lt (hv.gWarnAt w hw)
    | none => exact F64.pct_le_limit _ _ hv.gSmall hv.gThreshold
  | some p =>
    obtain ⟨i, r⟩ := p
    have hmem := selected_mem hs
    simp only
    cases hra : r.warnAt with
    | some w => exact Nat.le_of_lt (hv.rWarnAt r hmem w hra)
    | none =>
      cases hrt : r.warnThreshold with
      | some t => exact F64.pct_le_limit _ _ (hv.rSmall r hmem) (hv.rThreshold r hmem t hrt)
      | none =>
        cases hw : g.warnAt with
        | some w => exact hga i r w hs hra hrt hw
        | none => exact F64.pct_le_limit _ _ (hv.rSmall r hmem) hv.gThreshold

/-! ### explain reports exactly what check applies -/

theorem explain_coherent (g : Global) (rules : List Rule) (ms : List Bool) (s : Stats) :
    let v := verdict g rules ms s
    let x := explain g rules ms false
    x.rule = v.rule ∧ x.limit = v.limit ∧ x.warn = v.warn ∧ x.source = v.source ∧
    x.skipC = v.skipC ∧ x.skipB = v.skipB ∧ x.excluded = false :=
  ⟨rfl, rfl, rfl, rfl, rfl, rfl, rfl⟩

/-- an excluded file has no verdict at all (`should_process` is false) and `explain` says so -/
theorem explain_excluded (g : Global) (rules : List Rule) (ms : List Bool) (a b : Bool) :
    (explain g rules ms true).excluded = true ∧ shouldProcess true a b ms = false := by
  simp [explain, shouldProcess]

def exG : Global := { maxLines := 500, warnThreshold := 0x3FECCCCCCCCCCCCD /- 0.9 -/,
                      warnAt := none, skipComments := true, skipBlank := true }
def exRules : List Rule :=
  [ { maxLines := 100, warnThreshold := some 0x3FE1EB851EB851EC /- 0.56 -/, warnAt := none,
      skipComments := none, skipBlank := some false },
    { maxLines := 300, warnThreshold := none, warnAt := some 250,
      skipComments := some false, skipBlank := none } ]

-- 0.56 × 100 in f64 is 56.00000000000001, so the warn point is 57, not 56
example : (verdict exG exRules [true, false] ⟨60, 56, 2, 1, 1⟩).warn = 57 := by decide +kernel
example : (verdict exG exRules [true, false] ⟨60, 56, 2, 1, 1⟩).status = .warning := by decide +kernel
example : (verdict exG exRules [true, true] ⟨400, 200, 60, 100, 40⟩).status = .warning := by decide +kernel
example : (verdict exG exRules [true, true] ⟨400, 200, 60, 100, 40⟩).rule = some 1 := by decide +kernel
example : (verdict exG exRules [false, false] ⟨600, 451, 60, 100, 40⟩).status = .warning := by decide +kernel
example : lastMatch [true, false, true, false] = some 2 := by decide +kernel

end SlocModel.Props.C05
