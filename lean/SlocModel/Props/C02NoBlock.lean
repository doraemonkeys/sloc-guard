import SlocModel.Props.C02
/-!
  C02 — languages without block comments (Shell in the built-in table; any user-defined language
  with line comments only): the class of every line depends on that line alone, for every text
  without ignore directives (each line `NoDirective`, none an ignore-file line) — whatever else it
  contains, quote characters and comment markers inside strings included.
-/
namespace SlocModel.Props.C02
open SlocModel SlocModel.Counter

/-- the lexical class of a line in a language without block comments -/
def simpleClass (syn : Syntax) (line : List Char) : LineClass :=
  if (trim line).isEmpty then .blank
  else if isSingleLineComment syn (trim line) then .comment else .code

theorem noBlock_processLine (syn : Syntax) (h : syn.multi = []) (line : List Char)
    (hnd : NoDirective syn line) :
    processLine syn line {} = (simpleClass syn line, {}) := by
  have hstart : findMultiLineStart syn line = none := by rw [findMultiLineStart, h]; rfl
  rw [processLine_counting hnd ⟨rfl, rfl⟩, hstart, simpleClass]
  cases (trim line).isEmpty
  · cases isSingleLineComment syn (trim line) <;> rfl
  · rfl

/-- **every text without ignore directives**: in a language without block comments each physical
    line is blank, comment or code by itself — nothing on one line (a quote, a marker in a string,
    anything but a directive) changes the class of another line -/
theorem noBlock_classify (syn : Syntax) (h : syn.multi = []) (ls : List (List Char))
    (hnd : ∀ l ∈ ls, NoDirective syn l ∧ hasIgnoreFile syn l = false) (seen : Nat) :
    classifyLines syn ls seen {} = some (ls.map (simpleClass syn)) :=
  (Runs.map fun l hl => ⟨noBlock_processLine syn h l (hnd l hl).1, (hnd l hl).2⟩).classify_all seen

/-- code followed by a line comment is code; a marker inside a string does not make the line a
    comment: only the first non-blank characters decide -/
theorem noBlock_code (syn : Syntax) (line : List Char) (hne : (trim line).isEmpty = false)
    (hs : isSingleLineComment syn (trim line) = false) : simpleClass syn line = .code := by
  simp [simpleClass, hne, hs]

/-- the built-in languages without block comments (regenerated table) -/
theorem noBlock_builtins :
    (Generated.builtins.filter (fun l => l.syn.multi.isEmpty)).map (·.name) = ["Shell".toList] := by
  decide +kernel

def shSyn : Syntax := { single := [['#']], multi := [] }

example : classifyLines shSyn
    ["echo \"# not a comment\" # trailing".toList, "  # it's a comment \"".toList, " ".toList,
     "x='/* */ ''' \"\"\"'".toList, "y=2".toList] 0 {} =
    some [.code, .comment, .blank, .code, .code] := by char_lists; decide +kernel

end SlocModel.Props.C02
