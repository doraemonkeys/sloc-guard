import SlocModel.Props.C04
import SlocModel.Props.C02Grammar
/-!
  C04 for the C family, with a purely lexical hypothesis.

  `comment_insert_invariant_partial` asks that no block-comment start is *found* on the inserted
  comment line.  For the C family (`//`, `/* */`) the scan lemmas turn that into a condition on
  the text alone: the line `ws // text` may hold anything — quote characters, escapes, closers,
  line prefixes — as long as `// text` does not contain the opener `/*` (the known finding
  `opener-in-line-comment`, refuted by `c04_opener_in_comment_fails`) and is not a directive.
  The surrounding file is arbitrary.
-/
namespace SlocModel.Props.C04
open SlocModel SlocModel.Counter SlocModel.Props.C02

/-- **comment lines, C family**: inserting or deleting a whole-line line comment whose text does
    not contain `/*`, anywhere outside a block comment and outside ignore regions of any file,
    changes no other line's class and not the code count -/
theorem comment_insert_cfamily (pre post : List (List Char)) (ws t : List Char)
    (hfile : ∀ x ∈ pre ++ post, hasIgnoreFile cSyn x = false)
    (hc : Counting (run cSyn pre {}).2) (hml : (run cSyn pre {}).2.ml.isIn = false)
    (hws : wsOk ws = true)
    (hno : containsSub opener (linePrefix ++ t) = false)
    (hnd : noDirectiveB (ws ++ (linePrefix ++ t)) = true) :
    ∃ before after,
      classifyLines cSyn (pre ++ post) 0 {} = some before ∧
      classifyLines cSyn (pre ++ (ws ++ (linePrefix ++ t)) :: post) 0 {} = some after ∧
      after = before.take pre.length ++ .comment :: before.drop pre.length ∧
      codeCount after = codeCount before := by
  obtain ⟨hnd1, hnd2⟩ := noDirectiveB_spec hnd
  obtain ⟨h1, h2, h3⟩ := lineComment_facts ws t hws hno
  refine comment_insert_invariant_partial cSyn pre post _ ?_ hc hml h2 h3 hnd1 h1
  rw [List.forall_mem_append] at hfile ⊢
  exact ⟨hfile.1, List.forall_mem_cons.mpr ⟨hnd2, hfile.2⟩⟩

/-- non-vacuity: a comment full of quotes, closers and prefixes meets the lexical hypotheses -/
example : wsOk [' ', '\t'] = true ∧
    containsSub opener (linePrefix ++ " don't \"q\" */ // it's * /".toList) = false ∧
    noDirectiveB ([' ', '\t'] ++ (linePrefix ++ " don't \"q\" */ // it's * /".toList)) = true := by
  char_lists; decide +kernel

end SlocModel.Props.C04
