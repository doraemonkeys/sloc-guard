import SlocModel.Trend
import SlocModel.Basic.ListLemmas
import SlocModel.Basic.Literals
/-!
  C15 — Trend history: append-only, whole-project, retention-bounded, exact deltas.
-/
namespace SlocModel.Props.C15
open SlocModel SlocModel.Trend

theorem drop_sublist {α : Type} (l : List α) (n : Nat) : (l.drop n).Sublist l := List.drop_sublist n l

/-! ### retention keeps the newest entries inside the age limit -/

/-- the first stage of `applyRetention`: the entries inside the age limit -/
def aged (h : List Entry) (cfg : Cfg) (now : Nat) : List Entry :=
  cfg.maxAgeDays.elim h fun d => h.filter (fun e => e.ts ≥ now - ageSecs d)

/-- retention keeps the newest `maxEntries` of the entries inside the age limit -/
theorem applyRetention_eq_drop (h : List Entry) (cfg : Cfg) (now : Nat) :
    applyRetention h cfg now =
      (aged h cfg now).drop ((aged h cfg now).length - cfg.maxEntries.getD (aged h cfg now).length) := by
  have keep : ∀ (a : List Entry) (m : Nat),
      (if a.length > m then a.drop (a.length - m) else a) = a.drop (a.length - m) := by
    intro a m
    split
    · rfl
    · rw [Nat.sub_eq_zero_of_le (by omega), List.drop_zero]
  unfold applyRetention aged
  cases cfg.maxAgeDays <;> cases cfg.maxEntries <;>
    simp only [Option.elim, Option.getD_none, Option.getD_some, Nat.sub_self, List.drop_zero, keep]

theorem aged_sublist (h : List Entry) (cfg : Cfg) (now : Nat) : (aged h cfg now).Sublist h := by
  unfold aged
  cases cfg.maxAgeDays
  · exact List.Sublist.refl _
  · exact List.filter_sublist

theorem ts_of_mem_aged {h : List Entry} {cfg : Cfg} {now d : Nat} (hd : cfg.maxAgeDays = some d)
    {e : Entry} (he : e ∈ aged h cfg now) : e.ts ≥ now - ageSecs d := by
  simp only [aged, hd] at he
  simpa using (List.mem_filter.mp he).2

theorem aged_append_now (h : List Entry) (cfg : Cfg) (now : Nat) (t : Totals) :
    aged (h ++ [{ ts := now, totals := t }]) cfg now = aged h cfg now ++ [{ ts := now, totals := t }] := by
  unfold aged
  cases cfg.maxAgeDays
  · rfl
  · -- the new entry passes the filter: `now - _ ≤ now`
    simp only [Option.elim, List.filter_append, List.filter_cons, List.filter_nil, ge_iff_le,
      Nat.sub_le, decide_true, if_true]

/-- retention only ever removes entries, keeps their order, bounds the length, removes
    everything older than the age limit and keeps the newest ones: the result is a suffix of
    the age-filtered history -/
theorem retention_bounds (h : List Entry) (cfg : Cfg) (now : Nat) :
    (applyRetention h cfg now).Sublist h ∧
    (∀ m, cfg.maxEntries = some m → (applyRetention h cfg now).length ≤ m) ∧
    (∀ d, cfg.maxAgeDays = some d → ∀ e ∈ applyRetention h cfg now, e.ts ≥ now - ageSecs d) ∧
    (∃ k, applyRetention h cfg now =
        (match cfg.maxAgeDays with
         | none => h
         | some d => h.filter (fun e => e.ts ≥ now - ageSecs d)).drop k) := by
  rw [applyRetention_eq_drop]
  refine ⟨(List.drop_sublist _ _).trans (aged_sublist h cfg now), fun m hm => ?_,
    fun d hd e he => ts_of_mem_aged hd (List.mem_of_mem_drop he), _, congrArg _ ?_⟩
  · rw [List.length_drop, hm, Option.getD_some]; omega
  · unfold aged; cases cfg.maxAgeDays <;> rfl

/-- retention is total for every configuration value, including `max_age_days = u64::MAX`
    (the age product saturates; before the repair it overflowed) -/
theorem age_saturates (d : Nat) : ageSecs d ≤ u64Max := Nat.min_le_right _ _

example : applyRetention [⟨5, ⟨1, 1, 1, 0, 0⟩⟩]
    { maxEntries := none, maxAgeDays := some (2 ^ 63 - 1), minIntervalSecs := none,
      minCodeDelta := none } 1700000000 = [⟨5, ⟨1, 1, 1, 0, 0⟩⟩] := by decide +kernel

/-! ### a snapshot appends at most one entry and rewrites none -/

theorem shouldAdd_eq_false (h : List Entry) (cfg : Cfg) (now : Nat) :
    shouldAdd h cfg now = false ↔
      ∃ mi e, cfg.minIntervalSecs = some mi ∧ h.getLast? = some e ∧ now - e.ts < mi := by
  fun_cases shouldAdd h cfg now <;> simp [*]

/-- a recorded snapshot is exactly "append one entry carrying the given totals, then retain";
    skipped and dry-run invocations leave the history value unchanged -/
theorem snapshot_appends_one (h : List Entry) (cfg : Cfg) (t1 t2 t3 : Nat) (t : Totals)
    (force dry : Bool) :
    let r := snapshot h cfg t1 t2 t3 t force dry
    (r.1 = .recorded → r.2 = applyRetention (h ++ [{ ts := t2, totals := t }]) cfg t3) ∧
    (r.1 ≠ .recorded → r.2 = h) := by
  fun_cases snapshot h cfg t1 t2 t3 t force dry <;> simp

/-- earlier entries are never rewritten or reordered: the new history is a sublist of the old
    one followed by the new entry -/
theorem never_rewrites (h : List Entry) (cfg : Cfg) (t1 t2 t3 : Nat) (t : Totals)
    (force dry : Bool) :
    (snapshot h cfg t1 t2 t3 t force dry).2.Sublist (h ++ [{ ts := t2, totals := t }]) := by
  fun_cases snapshot h cfg t1 t2 t3 t force dry
  · exact List.sublist_append_left _ _
  · exact List.sublist_append_left _ _
  · exact (retention_bounds _ cfg t3).1

/-- with a pinned clock the entry just recorded survives its own retention pass whenever at
    least one entry may be kept -/
theorem new_entry_kept (h : List Entry) (cfg : Cfg) (now : Nat) (t : Totals)
    (hm : ∀ m, cfg.maxEntries = some m → 1 ≤ m) :
    (applyRetention (h ++ [{ ts := now, totals := t }]) cfg now).getLast? =
      some { ts := now, totals := t } := by
  rw [applyRetention_eq_drop, aged_append_now, List.getLast?_drop, if_neg, List.getLast?_concat]
  -- fewer than all are dropped, since at least one may be kept
  cases hme : cfg.maxEntries with
  | none => simp
  | some m => have := hm m hme; simp; omega

/-- a snapshot inside the minimum interval is skipped unless forced -/
theorem interval_skip_iff (h : List Entry) (cfg : Cfg) (t1 t2 t3 : Nat) (t : Totals) :
    (snapshot h cfg t1 t2 t3 t false false).1 = .skipped ↔
      ∃ mi e, cfg.minIntervalSecs = some mi ∧ h.getLast? = some e ∧ t1 - e.ts < mi := by
  rw [← shouldAdd_eq_false]
  unfold snapshot
  cases shouldAdd h cfg t1 <;> simp

theorem force_overrides (h : List Entry) (cfg : Cfg) (t1 t2 t3 : Nat) (t : Totals) :
    (snapshot h cfg t1 t2 t3 t true false).1 ≠ .skipped := by
  simp [snapshot]

theorem dry_run_read_only (h : List Entry) (cfg : Cfg) (t1 t2 t3 : Nat) (t : Totals) (force : Bool) :
    snapshot h cfg t1 t2 t3 t force true = (.dryRun, h) := rfl

/-! ### `--since`: the reference entry and the delta -/

/-- `--since D` selects the last entry in recording order whose timestamp is at or before the
    target time (no monotonicity of timestamps is assumed) -/
theorem since_selects (h : List Entry) (t : Nat) (e : Entry) :
    findAtOrBefore h t = some e ↔
      ∃ pre post, h = pre ++ e :: post ∧ e.ts ≤ t ∧ ∀ x ∈ post, ¬ x.ts ≤ t := by
  simp only [findAtOrBefore, List.find?_reverse_spec, decide_eq_true_eq, decide_eq_false_iff_not]

/-- the delta is current totals minus the selected entry, field by field -/
theorem delta_exact (prev : Entry) (cur : Totals) :
    (delta prev cur).files = (cur.files : Int) - prev.totals.files ∧
    (delta prev cur).code = (cur.code : Int) - prev.totals.code ∧
    (delta prev cur).lines = (cur.lines : Int) - prev.totals.lines ∧
    (delta prev cur).comment = (cur.comment : Int) - prev.totals.comment ∧
    (delta prev cur).blank = (cur.blank : Int) - prev.totals.blank :=
  ⟨rfl, rfl, rfl, rfl, rfl⟩

theorem delta_since_def (h : List Entry) (dur : Nat) (cur : Totals) (now : Nat) :
    deltaSince h dur cur now = (findAtOrBefore h (now - dur)).map (delta · cur) := rfl

/-- significant iff files changed or |code delta| exceeds min_code_delta (default from source) -/
theorem significant_iff (d : Delta) (cfg : Cfg) :
    isSignificant d cfg = true ↔
      d.files ≠ 0 ∨ d.code.natAbs > cfg.minCodeDelta.getD Generated.defaultMinCodeDelta := by
  simp [isSignificant]

/-! ### duration strings: what `--since` and the configuration accept, and what they mean -/

/-- the unit table of the source: `w` is 604 800 s etc. -/
theorem unit_values :
    multiplierOf "s".toList = some 1 ∧ multiplierOf "m".toList = some 60 ∧
    multiplierOf "h".toList = some 3600 ∧ multiplierOf "d".toList = some 86400 ∧
    multiplierOf "w".toList = some 604800 ∧ multiplierOf "weeks".toList = some 604800 ∧
    multiplierOf "x".toList = none := by decide +kernel

theorem mulU64_eq_some {a b r : Nat} (h : mulU64 a b = some r) : r = a * b ∧ r ≤ u64Max := by
  revert h
  fun_cases mulU64 a b <;> intro h <;> cases h
  next hle => exact ⟨rfl, hle⟩

/-- accepted ⇒ the text is digits followed by a known unit and the value is n × multiplier
    (which fits in 64 bits) -/
theorem parse_duration_spec (input : List Char) (secs : Nat) (h : parseDuration input = .ok secs) :
    ∃ n m, Counter.parseDigits ((Counter.trim input).takeWhile isAsciiDigit) 0 = some n ∧
      multiplierOf (((Counter.trim input).dropWhile isAsciiDigit).map lowerChar) = some m ∧
      0 < n ∧ secs = n * m ∧ secs ≤ u64Max := by
  revert h
  -- every way out of `parseDuration` but the last is an error
  fun_cases parseDuration input <;> intro h <;> cases h
  next v hv _ hv0 m hm hr => exact ⟨v, m, hv, hm, by omega, mulU64_eq_some hr⟩

/-- zero durations and unknown units are rejected, never defaulted -/
theorem parse_duration_rejects :
    parseDuration "0d".toList = .err .zero ∧ parseDuration "7".toList = .err .missingUnit ∧
    parseDuration "d".toList = .err .missingNumber ∧ parseDuration "7y".toList = .err .badUnit ∧
    parseDuration "".toList = .err .empty ∧
    parseDuration "99999999999999999999d".toList = .err .badNumber := by decide +kernel

/-- out-of-range products are rejected, not wrapped (repaired: used to overflow) -/
theorem duration_overflow_rejected :
    parseDuration "99999999999999999w".toList = .err .tooLarge ∧
    parseDuration "18446744073709551615s".toList = .ok u64Max := by char_lists; decide +kernel

/-! ### which checks record a snapshot by themselves -/

def sumTotals (fs : List Totals) : Totals :=
  fs.foldl (fun a b => ⟨a.files + b.files, a.lines + b.lines, a.code + b.code,
    a.comment + b.comment, a.blank + b.blank⟩) ⟨0, 0, 0, 0, 0⟩

/-- only a passing check with the option enabled snapshots -/
theorem auto_snapshot_iff (exit : Int) (enabled f d s : Bool) :
    autoSnapshotRuns exit enabled f d s = true ↔
      exit = Generated.exitSuccess ∧ enabled = true ∧ f = false ∧ d = false ∧ s = false := by
  simp only [autoSnapshotRuns, Bool.and_eq_true, decide_eq_true_eq, Bool.not_eq_true',
    Bool.or_eq_false_iff, and_assoc]

theorem auto_snapshot_iff_full (exit : Int) (enabled f d s k : Bool) :
    autoSnapshotRuns' exit enabled f d s k = true ↔
      exit = Generated.exitSuccess ∧ enabled = true ∧ f = false ∧ d = false ∧ s = false ∧ k = false := by
  simp only [autoSnapshotRuns', Bool.and_eq_true, auto_snapshot_iff, Bool.not_eq_true', and_assoc]

/-- exactly the passing, enabled, whole-project runs snapshot -/
theorem auto_snapshot_iff_whole (exit : Int) (enabled f d s k inc exc ext root : Bool) :
    autoSnapshotRuns'' exit enabled f d s k inc exc ext root = true ↔
      exit = Generated.exitSuccess ∧ enabled = true ∧ f = false ∧ d = false ∧ s = false ∧
        k = false ∧ inc = false ∧ exc = false ∧ ext = false ∧ root = true := by
  simp only [autoSnapshotRuns'', narrowedByArguments, Bool.and_eq_true, auto_snapshot_iff_full,
    Bool.not_eq_true', Bool.or_eq_false_iff, Bool.not_eq_false', and_assoc]

/-- a check restricted by `--files`, `--diff` or `--staged` never writes the history
    (repaired: it used to record the partial totals) -/
theorem restricted_check_never_snapshots (exit : Int) (enabled f d s : Bool)
    (h : f = true ∨ d = true ∨ s = true) : autoSnapshotRuns exit enabled f d s = false := by
  rw [← Bool.not_eq_true, auto_snapshot_iff]
  rintro ⟨_, _, rfl, rfl, rfl⟩
  simp at h

/-- a run whose totals are partial for any reason — a file list, a git filter, or fail-fast
    having skipped files (it can still pass under `--warn-only`) — never snapshots -/
theorem partial_run_never_snapshots (exit : Int) (enabled f d s k : Bool)
    (h : f = true ∨ d = true ∨ s = true ∨ k = true) : autoSnapshotRuns' exit enabled f d s k = false := by
  rw [← Bool.not_eq_true, auto_snapshot_iff_full]
  rintro ⟨_, _, rfl, rfl, rfl, rfl⟩
  simp at h

/-- a run that any argument narrows to a part of the project — another scan target, `--include`,
    `--exclude`, `--ext` — never snapshots either (repaired in 179de33: `check src` used to record
    the totals of `src` as the project's) -/
theorem narrowed_run_never_snapshots (exit : Int) (enabled f d s k inc exc ext root : Bool)
    (h : inc = true ∨ exc = true ∨ ext = true ∨ root = false) :
    autoSnapshotRuns'' exit enabled f d s k inc exc ext root = false := by
  rw [← Bool.not_eq_true, auto_snapshot_iff_whole]
  rintro ⟨_, _, _, _, _, _, rfl, rfl, rfl, rfl⟩
  simp at h

/-- What remains false of the pinned code ("totals of the whole project as `stats summary`
    reports them"): the check hands over the totals of the files that pass `should_process`,
    so files matched by `content.exclude` are missing from an auto-snapshot although
    `stats summary` and `snapshot` count them. -/
theorem c15_auto_snapshot_ignores_content_excluded :
    let project := [⟨1, 10, 8, 1, 1⟩, ⟨1, 20, 15, 3, 2⟩, ⟨1, 5, 5, 0, 0⟩]
    let checked := [⟨1, 10, 8, 1, 1⟩, ⟨1, 20, 15, 3, 2⟩]    -- third file is content-excluded
    let cfg : Cfg := ⟨none, none, none, none⟩
    (snapshot [] cfg 100 100 100 (sumTotals checked) false false).2.map (·.totals)
      ≠ [sumTotals project] := by decide +kernel

example : (snapshot [⟨10, ⟨1, 1, 1, 0, 0⟩⟩, ⟨20, ⟨2, 2, 2, 0, 0⟩⟩]
    ⟨some 2, some 1, some 5, none⟩ 100000 100000 100000 ⟨3, 3, 3, 0, 0⟩ false false)
    = (.recorded, [⟨100000, ⟨3, 3, 3, 0, 0⟩⟩]) := by decide +kernel
example : findAtOrBefore [⟨10, ⟨1, 1, 1, 0, 0⟩⟩, ⟨30, ⟨2, 2, 2, 0, 0⟩⟩, ⟨20, ⟨3, 3, 3, 0, 0⟩⟩] 25
    = some ⟨20, ⟨3, 3, 3, 0, 0⟩⟩ := by decide +kernel
example : parseDuration " 2Wks ".toList = .ok 1209600 := by decide +kernel

end SlocModel.Props.C15
