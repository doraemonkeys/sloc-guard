import SlocModel.GitDiffLemmas
import SlocModel.Basic.Literals
/-!
  C19 — Diff and staged modes check exactly what git says changed.

  Statements about `SlocModel.GitDiff` (src/git/diff.rs, check_git_diff.rs).  The specification is
  the *flat view* of a commit: the list of (path, blob id) of its regular files.  Trees are
  arbitrary (any depth, any number of entries, any kinds); the only hypothesis is git's own
  invariant that names are unique within one tree (`wfTree`).
-/
namespace SlocModel.Props.C19
open SlocModel SlocModel.GitDiff

/-- `--diff A..B`, additions and modifications: the recursive comparison with its object-id
    short-circuit and its entry-kind cases reports exactly the regular files of B that A does not
    have with the same content — at any depth, below added, replaced or type-changed directories -/
theorem diff_changed_exact (base target : Tree) (hb : wfTree base = true) (ht : wfTree target = true)
    (p : Path) :
    p ∈ (compareTrees base target).changed ↔
      ChangedSpec (flatTree base []) (flatTree target []) p :=
  (compareTrees_spec base target hb ht p).1

/-- deletion candidates: exactly the regular files of A that are no regular file of B -/
theorem diff_deleted_exact (base target : Tree) (hb : wfTree base = true) (ht : wfTree target = true)
    (p : Path) :
    p ∈ (compareTrees base target).deleted ↔
      DeletedSpec (flatTree base []) (flatTree target []) p :=
  (compareTrees_spec base target hb ht p).2

/-- the set handed to the filter: changed files, and deleted ones that are still regular files in
    the work tree -/
theorem diff_set_exact (base target : Tree) (hb : wfTree base = true) (ht : wfTree target = true)
    (onDisk : Path → Bool) (p : Path) :
    p ∈ changedSet base target onDisk ↔
      ChangedSpec (flatTree base []) (flatTree target []) p ∨
      (DeletedSpec (flatTree base []) (flatTree target []) p ∧ onDisk p = true) := by
  simp only [changedSet, List.mem_append, List.mem_filter,
    diff_changed_exact base target hb ht p, diff_deleted_exact base target hb ht p]

/-- a well-formed commit names every regular file once -/
theorem flatNode_functional : ∀ (n : Node) (q : Path) (p : Path) (i j : Nat), wfNode n = true →
    (p, i) ∈ flatNode n q → (p, j) ∈ flatNode n q → i = j := by
  intro n
  induction n using Node.induct with
  | blob =>
    intro _ _ _ _ _ hi hj
    simp only [flatNode, List.mem_singleton, Prod.mk.injEq] at hi hj; rw [hi.2, hj.2]
  | link => intro _ _ _ _ _ hi; cases hi
  | commit => intro _ _ _ _ _ hi; cases hi
  | tree t ih =>
    intro q p i j hw hi hj
    -- both occurrences lie in the same entry, the one whose name the path goes through
    obtain ⟨nm, m, hm, hi⟩ := (mem_flatTree t q).1 hi
    have hj := flat_below hw hi hj
    have hwm := wfOpt_find t hw nm
    rw [find_of_mem_entries t nm m hw hm] at hj hwm
    exact ih nm m hm _ p i j hwm hi hj

/-- a file with the same committed content in A and B is never in the set -/
theorem unchanged_never_reported (base target : Tree) (hb : wfTree base = true)
    (ht : wfTree target = true) (onDisk : Path → Bool) (p : Path) (id : Nat)
    (h1 : (p, id) ∈ flatTree base []) (h2 : (p, id) ∈ flatTree target []) :
    p ∉ changedSet base target onDisk := by
  rw [diff_set_exact base target hb ht]
  rintro (⟨id', h3, h4⟩ | ⟨⟨_, h3⟩, _⟩)
  · have := flatNode_functional (.tree target) [] p id id' ht h2 h3
    subst this; exact h4 h1
  · exact h3 ⟨id, h2⟩

/-- a path that neither commit has as a regular file is never in the set -/
theorem foreign_never_reported (base target : Tree) (hb : wfTree base = true)
    (ht : wfTree target = true) (onDisk : Path → Bool) (p : Path)
    (h1 : ∀ id, (p, id) ∉ flatTree base []) (h2 : ∀ id, (p, id) ∉ flatTree target []) :
    p ∉ changedSet base target onDisk := by
  rw [diff_set_exact base target hb ht]
  rintro (⟨id', h3, _⟩ | ⟨⟨⟨id', h3⟩, _⟩, _⟩)
  · exact h2 id' h3
  · exact h1 id' h3

/-- equal subtrees are skipped without being read, soundly: nothing below them differs -/
theorem short_circuit_sound (s t : Tree) (pre : Path) (h : treeEq s t = true) :
    flatTree s pre = flatTree t pre := treeEq_flat s t pre h

/-! non-vacuity and the type-change cases by computation (names unique, mixed kinds) -/

def exBase : Tree :=
  .cons "l".toList (.link 5) (.cons "d".toList (.tree (.cons "x".toList (.blob 1 false) .nil))
    (.cons "f".toList (.blob 7 false) (.cons "g".toList (.blob 8 false) .nil)))
def exTarget : Tree :=
  .cons "l".toList (.tree (.cons "in".toList (.blob 9 false) .nil))
    (.cons "d".toList (.blob 4 true) (.cons "f".toList (.link 7) (.cons "g".toList (.blob 8 true) .nil)))

example : wfTree exBase = true ∧ wfTree exTarget = true := by decide +kernel
/-- link → directory: the files below it are new; directory → file: the file is new and the files
    below are deletion candidates; file → link with the same id: a deletion candidate; a mode-only
    change is no content change -/
example : (compareTrees exBase exTarget).changed = [["l".toList, "in".toList], ["d".toList]] ∧
    (compareTrees exBase exTarget).deleted = [["d".toList, "x".toList], ["f".toList]] := by
  decide +kernel

/-! ### `--staged`: what differs between the index and `HEAD` -/

/-- exactly the regular-file index entries that HEAD does not have with the same content -/
theorem staged_exact (index : List IndexEntry) (head : List (Path × Nat)) (p : Path) :
    p ∈ stagedSet index head ↔
      ∃ e ∈ index, e.path = p ∧ e.kind = .blob ∧ (e.path, e.id) ∉ head := by
  simp only [stagedSet, List.mem_map, List.mem_filter, Bool.and_eq_true, decide_eq_true_eq,
    Bool.not_eq_true', List.any_eq_false, not_and]
  -- no entry of `head` passes the test iff the pair is not in `head`
  exact ⟨fun ⟨e, ⟨he, hk, hn⟩, hp⟩ => ⟨e, he, hp, hk, fun hm => hn _ hm rfl rfl⟩,
    fun ⟨e, he, hp, hk, hn⟩ => ⟨e, ⟨he, hk, fun x hx h1 h2 => hn (by rwa [← h1, ← h2])⟩, hp⟩⟩

/-- a repository without commits: every regular file of the index is staged -/
theorem staged_no_commits (index : List IndexEntry) (p : Path) :
    p ∈ stagedSet index [] ↔ ∃ e ∈ index, e.path = p ∧ e.kind = .blob := by
  rw [staged_exact]; simp

/-- an unchanged symbolic link or submodule entry never makes anything staged -/
theorem staged_ignores_links (index : List IndexEntry) (head : List (Path × Nat)) (p : Path)
    (h : ∀ e ∈ index, e.path = p → e.kind ≠ .blob) : p ∉ stagedSet index head := by
  rw [staged_exact]
  rintro ⟨e, he, hp, hk, _⟩
  exact h e he hp hk

/-! ### `--diff` ranges: every spelling is split at its first `..` -/

/-- a `..` begins at position `m` of `s` -/
def DotsAt (s : List Char) (m : Nat) : Prop := s[m]? = some '.' ∧ s[m + 1]? = some '.'

/-- at the head of the text `DotsAt` is the test `findDotDot` makes -/
theorem dotsAt_zero (a b : Char) (r : List Char) :
    DotsAt (a :: b :: r) 0 ↔ (a = '.' && b = '.') = true := by
  simp only [DotsAt, List.getElem?_cons_zero, List.getElem?_cons_succ, Option.some.injEq,
    Bool.and_eq_true, decide_eq_true_eq]

/-- `findDotDot` returns the position of the **first** `..`, or there is none -/
theorem findDotDot_spec (s : List Char) (i : Nat) :
    (findDotDot s i = none ∧ ∀ m, ¬ DotsAt s m) ∨
    ∃ j, findDotDot s i = some (i + j) ∧ DotsAt s j ∧ ∀ m, m < j → ¬ DotsAt s m := by
  fun_induction findDotDot s i
  next => exact .inl ⟨rfl, fun m h => nomatch h.1⟩  -- no character
  next => exact .inl ⟨rfl, fun m h => nomatch h.2⟩  -- one character
  next a b r i hab =>  -- `..` here
    exact .inr ⟨0, rfl, (dotsAt_zero a b r).2 hab, fun m hm => absurd hm (Nat.not_lt_zero m)⟩
  next a b r i hab ih =>  -- not here
    have h0 : ¬ DotsAt (a :: b :: r) 0 := fun h => hab ((dotsAt_zero a b r).1 h)
    -- `DotsAt (a :: s) (m + 1)` is `DotsAt s m` by computation
    rcases ih with ⟨hn, hall⟩ | ⟨j, hj, hat, hlt⟩
    · exact .inl ⟨hn, fun m => by cases m with | zero => exact h0 | succ m => exact hall m⟩
    · refine .inr ⟨j + 1, by rw [hj, Nat.add_right_comm, Nat.add_assoc], hat, fun m hm => ?_⟩
      cases m with
      | zero => exact h0
      | succ m => exact hlt m (Nat.lt_of_succ_lt_succ hm)

theorem parseRange_none (s : List Char) (hs : s ≠ []) (h : findDotDot s 0 = none) :
    parseRange s = .ok s "HEAD".toList := by
  obtain ⟨c, r, rfl⟩ := List.exists_cons_of_ne_nil hs
  simp only [parseRange, h]; rfl

theorem parseRange_some (s : List Char) (k : Nat) (h : findDotDot s 0 = some k) :
    parseRange s = (if k = 0 then .error
      else .ok (s.take k) (if (s.drop (k + 2)).isEmpty then "HEAD".toList else s.drop (k + 2))) := by
  cases s with
  | nil => cases h
  | cons c r =>
    cases k with
    | zero => simp only [parseRange, h]; rfl
    | succ k => simp only [parseRange, h]; rfl

/-- **every spelling**: the range is split at the first `..`; what precedes it is the base
    (empty: an error), what follows the target (empty: `HEAD`); without `..` the whole text is
    the base and the target is `HEAD` -/
theorem range_general (s : List Char) (hs : s ≠ []) :
    (∀ j, s[j]? = some '.' → s[j + 1]? = some '.' →
        (∀ m, m < j → ¬ (s[m]? = some '.' ∧ s[m + 1]? = some '.')) →
        parseRange s = (if j = 0 then .error
          else .ok (s.take j) (if (s.drop (j + 2)).isEmpty then "HEAD".toList else s.drop (j + 2)))) ∧
    ((∀ m, ¬ (s[m]? = some '.' ∧ s[m + 1]? = some '.')) → parseRange s = .ok s "HEAD".toList) := by
  rcases findDotDot_spec s 0 with ⟨hn, hall⟩ | ⟨k, hk, hat, hlt⟩
  · exact ⟨fun j h1 h2 _ => absurd ⟨h1, h2⟩ (hall j), fun _ => parseRange_none s hs hn⟩
  · refine ⟨fun j h1 h2 h3 => ?_, fun h => absurd hat (h k)⟩
    -- `j` and `k` are both the first position
    have : k = j := Nat.le_antisymm (Nat.not_lt.1 fun h => hlt j h ⟨h1, h2⟩) (Nat.not_lt.1 fun h => h3 k h hat)
    rw [Nat.zero_add, this] at hk
    exact parseRange_some s j hk

theorem range_empty : parseRange [] = .error := by decide

theorem range_no_base (t : List Char) : parseRange ('.' :: '.' :: t) = .error :=
  (range_general _ (List.cons_ne_nil _ _)).1 0 rfl rfl (fun _ h => absurd h (Nat.not_lt_zero _))

/-- `ref` means `ref..HEAD` -/
theorem range_single (a : List Char) (h : a ≠ []) (hd : '.' ∉ a) :
    parseRange a = .ok a "HEAD".toList :=
  (range_general a h).2 fun _ hm => hd (List.mem_of_getElem? hm.1)

/-- `base..target`, and `base..` meaning `base..HEAD` -/
theorem range_split (a b : List Char) (h : a ≠ []) (hd : '.' ∉ a) :
    parseRange (a ++ '.' :: '.' :: b) = .ok a (if b.isEmpty then "HEAD".toList else b) := by
  have hg := (range_general (a ++ '.' :: '.' :: b) (by simp)).1 a.length (by simp) (by simp)
    (fun m hm hdots => hd (List.mem_of_getElem? ((List.getElem?_append_left hm).symm.trans hdots.1)))
  have hlen : a.length ≠ 0 := fun e => h (List.length_eq_zero_iff.1 e)
  have hdrop : (a ++ '.' :: '.' :: b).drop (a.length + 2) = b := by
    rw [← List.drop_drop, List.drop_left']; rfl; rfl
  rw [hg, if_neg hlen, List.take_left' rfl, hdrop]

example : parseRange "main..feature".toList = .ok "main".toList "feature".toList := by
  char_lists; decide +kernel
example : parseRange "v1.0..".toList = .ok "v1.0".toList "HEAD".toList := by char_lists; decide +kernel
example : parseRange "..feature".toList = .error := by char_lists; decide +kernel

/-! ### the changed set only filters the scanned files -/

/-- files outside the set are never evaluated and every evaluated file was scanned (that the order
    of the scan is kept is `filter_sublist`) -/
theorem filter_exact (files set : List Path) (f : Path) :
    f ∈ filterFiles files set ↔ f ∈ files ∧ f ∈ set := by
  simp [filterFiles]

theorem filter_sublist (files set : List Path) : (filterFiles files set).Sublist files := by
  simp [filterFiles]

/-- the status of a kept file does not depend on the filter: evaluation is per file -/
theorem filter_status_same {σ : Type} (eval : Path → σ) (files set : List Path) :
    (filterFiles files set).map (fun f => (f, eval f)) =
      (files.map (fun f => (f, eval f))).filter (fun r => set.contains r.1) := by
  simp [filterFiles, List.filter_map, Function.comp_def]

end SlocModel.Props.C19
