import SlocModel.Props.C20
/-!
  C20 — the line totals of the HTML check report (fix e7a81eb): the summary cards are the sums
  over the *file* rows; the synthetic statistics of a structure finding (a number of entries kept
  in `code` / `total`) contribute nothing.
-/
namespace SlocModel.Report

/-- what `HtmlFormatter::format` sees of one result -/
structure CheckRow where
  isStructure : Bool
  total : Nat
  code : Nat
  comment : Nat
  blank : Nat
  deriving DecidableEq, Repr

/-- `AggregateStats::accumulate` over the results that are not structure findings -/
def htmlAggregate (rs : List CheckRow) : Nat × Nat × Nat × Nat :=
  rs.foldl (fun a r => if r.isStructure then a
    else (a.1 + r.total, a.2.1 + r.code, a.2.2.1 + r.comment, a.2.2.2 + r.blank)) (0, 0, 0, 0)

/-- **the HTML totals are the sums over the file rows** -/
theorem htmlAggregate_file_sums (rs : List CheckRow) :
    htmlAggregate rs =
      (((rs.filter (!·.isStructure)).map (·.total)).sum, ((rs.filter (!·.isStructure)).map (·.code)).sum,
       ((rs.filter (!·.isStructure)).map (·.comment)).sum, ((rs.filter (!·.isStructure)).map (·.blank)).sum) := by
  -- each component is a counter that only a file row raises
  have key (π : Nat × Nat × Nat × Nat → Nat) {f : CheckRow → Nat} (h0 : π (0, 0, 0, 0) = 0)
      (hs : ∀ a r, π (if r.isStructure then a
        else (a.1 + r.total, a.2.1 + r.code, a.2.2.1 + r.comment, a.2.2.2 + r.blank)) =
        π a + if !r.isStructure then f r else 0) :
      π (htmlAggregate rs) = ((rs.filter (!·.isStructure)).map f).sum := by
    rw [htmlAggregate, List.foldl_counter π hs, h0, Nat.zero_add, List.sum_map_filter]
  refine Prod.ext (key (·.1) rfl ?_) (Prod.ext (key (·.2.1) rfl ?_)
    (Prod.ext (key (·.2.2.1) rfl ?_) (key (·.2.2.2) rfl ?_)))
  all_goals intro a r; cases r.isStructure <;> rfl

/-- a structure finding changes no line total, whatever it carries -/
theorem htmlAggregate_structure_inert (rs : List CheckRow) (r : CheckRow) (h : r.isStructure = true) :
    htmlAggregate (rs ++ [r]) = htmlAggregate rs := by
  unfold htmlAggregate
  rw [List.foldl_append, List.foldl_cons, List.foldl_nil, if_pos h]

example : htmlAggregate [⟨false, 1, 1, 0, 0⟩, ⟨true, 3, 3, 0, 0⟩, ⟨false, 2, 1, 1, 0⟩] = (3, 2, 1, 0) := by
  decide +kernel

end SlocModel.Report
