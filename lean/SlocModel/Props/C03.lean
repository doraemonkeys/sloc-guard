import SlocModel.Counter.CountLemmas
import SlocModel.Basic.Literals
import SlocModel.Counter.DetectLemmas
/-!
  C03 — Line accounting is total: every physical line lands in exactly one class.
  Statements are about `SlocModel.Counter` (model of src/counter/{sloc,comment}.rs), for every
  comment syntax value and every text.
-/
namespace SlocModel.Props.C03
open SlocModel SlocModel.Counter

/-! ### total = number of physical lines = code + comment + blank + ignored -/

theorem bump_total (s : LineStats) (c : LineClass) : (s.bump c).total = s.total + 1 := by
  cases c <;> rfl

theorem bump_sum (s : LineStats) (c : LineClass)
    (h : s.total = s.code + s.comment + s.blank + s.ignored) :
    (s.bump c).total = (s.bump c).code + (s.bump c).comment + (s.bump c).blank + (s.bump c).ignored := by
  cases c <;> simp +arith only [LineStats.bump, h]

theorem foldl_bump_total (cs : List LineClass) (s : LineStats) :
    (cs.foldl LineStats.bump s).total = s.total + cs.length := by
  induction cs generalizing s with
  | nil => rfl
  | cons c cs ih =>
    rw [List.foldl_cons, ih, bump_total, List.length_cons, Nat.add_right_comm, Nat.add_assoc]

theorem foldl_bump_sum (cs : List LineClass) (s : LineStats)
    (h : s.total = s.code + s.comment + s.blank + s.ignored) :
    (cs.foldl LineStats.bump s).total =
      (cs.foldl LineStats.bump s).code + (cs.foldl LineStats.bump s).comment +
      (cs.foldl LineStats.bump s).blank + (cs.foldl LineStats.bump s).ignored := by
  induction cs generalizing s with
  | nil => exact h
  | cons c cs ih => exact ih _ (bump_sum s c h)

theorem classifyLines_length (syn : Syntax) (ls : List (List Char)) (seen : Nat) (st : St)
    (cs : List LineClass) (h : classifyLines syn ls seen st = some cs) : cs.length = ls.length := by
  revert h
  fun_induction classifyLines syn ls seen st generalizing cs <;> intro h <;> cases h
  next => rfl  -- no lines
  next cs hcs ih => rw [List.length_cons, ih _ hcs, List.length_cons]  -- a line, then `cs`

/-- every physical line is counted exactly once, in exactly one class -/
theorem count_total (syn : Syntax) (src : List Char) (s : LineStats)
    (h : count syn src = .stats s) :
    s.total = (splitLines src).length ∧ s.total = s.code + s.comment + s.blank + s.ignored := by
  revert h
  fun_cases count syn src <;> intro h <;> cases h
  next cs hcs =>  -- not an ignored file
    refine ⟨?_, foldl_bump_sum cs {} rfl⟩
    rw [tally, foldl_bump_total, classifyLines_length syn _ _ _ _ hcs]
    exact Nat.zero_add _

/-- the result is either statistics or "ignored file" — there is no third outcome
    (the model is total: no panic value exists; the index lemmas below justify that) -/
theorem count_cases (syn : Syntax) (src : List Char) :
    (∃ s, count syn src = .stats s) ∨ count syn src = .ignoredFile := by
  unfold count; split
  · exact Or.inl ⟨_, rfl⟩
  · exact Or.inr rfl

/-! ### the loops advance and stay inside the line
  Each Rust loop does `i += k`.  `1 ≤ k` is termination; `k ≤ len - i` means that no later
  `chars[i]` or `chars[i..]` is out of range. -/

theorem skStep_consumed (st : SkState) (c : Char) (rest : List Char) (track : Bool) :
    1 ≤ (skStep st c rest track).2 ∧ (skStep st c rest track).2 ≤ 1 + rest.length := by
  fun_cases skStep st c rest track
  next h =>  -- an escape inside a string
    have : rest ≠ [] := by intro h0; simp [h0] at h
    have : 0 < rest.length := List.length_pos_iff.mpr this
    simp; omega
  next r hr =>  -- a triple quote
    obtain ⟨_, t, _, rfl, h3, _⟩ := tripleHit_some hr
    simp only [List.length_cons]
    omega
  next => simp  -- a single character

theorem rawScan_bounds (endM : List Char) (cs : List Char) (off : Nat) :
    off ≤ rawScan endM cs off ∧ rawScan endM cs off ≤ off + cs.length := by
  fun_induction rawScan endM cs off
  next => simp  -- end of line
  next c cs off h =>  -- the end marker is here
    have := List.IsPrefix.length_le (List.isPrefixOf_iff_prefix.mp h)
    simp at this ⊢; omega
  next ih => simp; omega  -- one character on

theorem countLeading_le (x : Char) (cs : List Char) : countLeading x cs ≤ cs.length := by
  fun_induction countLeading x cs
  next => exact Nat.le_refl 0  -- nothing left
  next ih => exact Nat.succ_le_succ ih  -- one more `x`
  next => exact Nat.zero_le _  -- another character

theorem matchRustRawString_some (cs : List Char) (startLen level : Nat)
    (h : matchRustRawString cs = some (startLen, level)) :
    2 ≤ startLen ∧ startLen ≤ cs.length := by
  revert startLen level
  fun_cases matchRustRawString cs <;> rintro _ _ ⟨⟩
  next hd =>  -- `r`, hashes, then the quote, which lies inside the rest
    have := congrArg List.length hd
    rw [List.length_drop, List.length_cons] at this
    rw [List.length_cons]
    omega

/-- a raw-string skip consumes at least `r"` and never more than what is left of the line -/
theorem trySkipRaw_bounds (cs : List Char) (k : Nat) (h : trySkipRaw cs = some k) :
    2 ≤ k ∧ k ≤ cs.length := by
  revert h
  fun_cases trySkipRaw cs <;> intro h <;> cases h
  next startLen level hm =>  -- an opener of `startLen` characters
    have hs := matchRustRawString_some cs startLen level hm
    have hb := rawScan_bounds (rawEnd level) (List.drop startLen cs) startLen
    simp only [List.length_drop] at hb
    omega

/-- marker skips in `count_markers_outside_string` are non-empty (the guard rejects empty
    markers) and a matched marker fits in the rest of the line -/
theorem marker_skip_bounds (m c : List Char) (hne : m.isEmpty = false)
    (h : m.isPrefixOf c = true) : 1 ≤ m.length ∧ m.length ≤ c.length := by
  have := List.IsPrefix.length_le (List.isPrefixOf_iff_prefix.mp h)
  have : m ≠ [] := by intro h0; simp [h0] at hne
  have := List.length_pos_iff.mpr this
  omega

/-- `count_from_bytes` = `count` after lossy decoding (`decode` is std's `from_utf8_lossy`,
    a parameter), so on valid UTF-8 — where decoding inverts encoding — they agree. -/
def countFromBytes {β : Type} (decode : β → List Char) (syn : Syntax) (bytes : β) : CountResult :=
  count syn (decode bytes)

theorem entry_points_agree {β : Type} (decode : β → List Char) (encode : List Char → β)
    (hvalid : ∀ s, decode (encode s) = s) (syn : Syntax) (s : List Char) :
    countFromBytes decode syn (encode s) = count syn s := by
  simp [countFromBytes, hvalid]

/-- counting is a function: equal content and syntax give equal results -/
theorem count_deterministic (syn : Syntax) (a b : List Char) (h : a = b) :
    count syn a = count syn b := by rw [h]

/-- more lines at the end: the earlier ones are classified as before -/
theorem classifyLines_append (syn : Syntax) (a b : List (List Char)) (seen : Nat) (st : St) :
    ∃ st', classifyLines syn (a ++ b) seen st =
      (classifyLines syn a seen st).bind fun ca =>
        (classifyLines syn b (seen + a.length) st').map (ca ++ ·) := by
  induction a generalizing seen st with
  | nil => exact ⟨st, by simp [classifyLines]⟩
  | cons x xs ih =>
    obtain ⟨st', h⟩ := ih (seen + 1) (processLine syn x st).2
    refine ⟨st', ?_⟩
    rw [List.cons_append, classifyLines_cons, classifyLines_cons, h]
    split
    · rfl
    · rw [Option.map_bind, Option.bind_map, List.length_cons, Nat.add_right_comm seen, ← Nat.add_assoc]
      simp only [Function.comp_def, Option.map_map, List.cons_append]

def LineStats.le (a b : LineStats) : Prop :=
  a.total ≤ b.total ∧ a.code ≤ b.code ∧ a.comment ≤ b.comment ∧ a.blank ≤ b.blank ∧
  a.ignored ≤ b.ignored

theorem bump_le (s : LineStats) (c : LineClass) : LineStats.le s (s.bump c) := by
  cases c <;> simp [LineStats.le, LineStats.bump]

/-- appending a line never decreases any counter -/
theorem append_mono (syn : Syntax) (ls : List (List Char)) (l : List Char)
    (cs' : List LineClass) (h : classifyLines syn (ls ++ [l]) 0 {} = some cs') :
    ∃ cs, classifyLines syn ls 0 {} = some cs ∧ LineStats.le (tally cs) (tally cs') := by
  obtain ⟨st', hc⟩ := classifyLines_append syn ls [l] 0 {}
  rw [hc, classifyLines_cons, classifyLines] at h
  obtain ⟨cs, h1, h2⟩ := Option.bind_eq_some_iff.mp h
  refine ⟨cs, h1, ?_⟩
  split at h2
  · cases h2
  · cases h2
    simp only [tally, List.foldl_append, List.foldl_cons, List.foldl_nil]
    exact bump_le _ _

/-- … unless the appended line is an ignore-file directive inside the scan window -/
theorem append_ignored_file_only_by_directive (syn : Syntax) (ls : List (List Char))
    (l : List Char) (h : classifyLines syn (ls ++ [l]) 0 {} = none) :
    classifyLines syn ls 0 {} = none ∨
      (ls.length < Generated.directiveScanLines ∧ hasIgnoreFile syn l = true) := by
  obtain ⟨st', hc⟩ := classifyLines_append syn ls [l] 0 {}
  rw [hc, classifyLines_cons, classifyLines] at h
  cases hls : classifyLines syn ls 0 {} with
  | none => exact Or.inl rfl
  | some cs =>
    rw [hls, Option.bind_some] at h
    split at h
    · rename_i hw
      exact Or.inr (by simpa using hw)
    · cases h

def cSyn : Syntax :=
  { single := [['/', '/']], multi := [MultiLine.plain ['/', '*'] ['*', '/']] }

example : count cSyn "int a;\n// c\n\n/* x\ny */\nint b;".toList
    = .stats { total := 6, code := 2, comment := 3, blank := 1, ignored := 0 } := by
  char_lists; decide +kernel

end SlocModel.Props.C03
