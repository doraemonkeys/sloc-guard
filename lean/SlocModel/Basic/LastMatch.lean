import SlocModel.Threshold
import SlocModel.Structure
import SlocModel.Placement
/-!
  "The last matching rule wins", once for every rule lookup of the model.
  `Threshold.lastMatchFrom`, `Structure.lastMatching` and `Placement.selectRule` are the same scan
  with different things kept; each is shown equal to `lastSat` at the end of this file.
-/
namespace SlocModel

variable {α β : Type} (p : α → Bool) (f : Nat → α → β)

/-- walk the list from the front, counting from `k`, and keep what `f` makes of the latest
    element satisfying `p` -/
def lastSat : List α → Nat → Option β → Option β
  | [], _, acc => acc
  | x :: xs, k, acc => lastSat xs (k + 1) (if p x then some (f k x) else acc)

/-- `x`, at index `i`, is the last element of `l` satisfying `p` -/
def IsLastSat (l : List α) (i : Nat) (x : α) : Prop :=
  l[i]? = some x ∧ p x = true ∧ ∀ j, i < j → ∀ y, l[j]? = some y → p y = false

variable {p f}

theorem lastSat_of_all_false {l : List α} (h : ∀ y ∈ l, p y = false) {k : Nat} {acc : Option β} :
    lastSat p f l k acc = acc := by
  induction l generalizing k acc with
  | nil => rfl
  | cons x xs ih =>
    obtain ⟨hx, hxs⟩ := List.forall_mem_cons.mp h
    rw [lastSat, hx]
    exact ih hxs

/-- the index is written `i + k` so that it reduces to `i` when the count starts at 0 -/
theorem lastSat_of_isLast {l : List α} {i : Nat} {x : α} (h : IsLastSat p l i x) (k : Nat)
    (acc : Option β) : lastSat p f l k acc = some (f (i + k) x) := by
  induction l generalizing i k acc with
  | nil => cases h.1
  | cons a as ih =>
    obtain ⟨hx, hp, hlater⟩ := h
    cases i with
    | zero =>
      cases hx
      rw [lastSat, hp, Nat.zero_add]
      exact lastSat_of_all_false fun y hy =>
        (List.getElem?_of_mem hy).elim fun j hj => hlater (j + 1) (Nat.succ_pos j) y hj
    | succ i =>
      rw [lastSat, ih ⟨hx, hp, fun j hj => hlater (j + 1) (Nat.succ_lt_succ hj)⟩,
        Nat.add_comm k 1, ← Nat.add_assoc]

theorem exists_isLast_or_all_false (p : α → Bool) (l : List α) :
    (∃ i x, IsLastSat p l i x) ∨ ∀ y ∈ l, p y = false := by
  induction l with
  | nil => exact Or.inr (fun _ h => nomatch h)
  | cons a as ih =>
    rcases ih with ⟨i, x, hx, hp, hlater⟩ | hall
    · refine Or.inl ⟨i + 1, x, hx, hp, fun j hj => ?_⟩
      cases j with
      | zero => exact absurd hj (Nat.not_lt_zero _)
      | succ j => exact hlater j (Nat.lt_of_succ_lt_succ hj)
    · cases hp : p a with
      | false => exact Or.inr (List.forall_mem_cons.mpr ⟨hp, hall⟩)
      | true =>
        refine Or.inl ⟨0, a, rfl, hp, fun j hj y hy => ?_⟩
        cases j with
        | zero => exact absurd hj (Nat.lt_irrefl 0)
        | succ j => exact hall y (List.mem_of_getElem? hy)

theorem lastSat_map {γ : Type} (g : γ → α) (l : List γ) (k : Nat) (acc : Option β) :
    lastSat p f (l.map g) k acc = lastSat (fun x => p (g x)) (fun i x => f i (g x)) l k acc := by
  induction l generalizing k acc with
  | nil => rfl
  | cons x xs ih => exact ih _ _

theorem lastSat_eq_some {l : List α} {k : Nat} {b : β} :
    lastSat p f l k none = some b ↔ ∃ i x, IsLastSat p l i x ∧ f (i + k) x = b := by
  constructor
  · intro h
    rcases exists_isLast_or_all_false p l with ⟨i, x, hl⟩ | hall
    · exact ⟨i, x, hl, Option.some.inj ((lastSat_of_isLast hl k none).symm.trans h)⟩
    · rw [lastSat_of_all_false hall] at h; cases h
  · rintro ⟨i, x, hl, rfl⟩
    exact lastSat_of_isLast hl k none

theorem lastSat_eq_none {l : List α} {k : Nat} :
    lastSat p f l k none = none ↔ ∀ y ∈ l, p y = false := by
  constructor
  · intro h
    rcases exists_isLast_or_all_false p l with ⟨i, x, hl⟩ | hall
    · rw [lastSat_of_isLast hl] at h; cases h
    · exact hall
  · exact fun h => lastSat_of_all_false h

/-! ### the rule lookups of the model -/

theorem Threshold.lastMatchFrom_eq (k : Nat) (ms : List Bool) (acc : Option Nat) :
    Threshold.lastMatchFrom k ms acc = lastSat id (fun i _ => i) ms k acc := by
  induction ms generalizing k acc with
  | nil => rfl
  | cons b bs ih => exact ih _ _

theorem Structure.lastMatching_eq (rules : List (Structure.Rule × Bool)) (k : Nat)
    (acc : Option (Nat × Structure.Rule)) :
    Structure.lastMatching rules k acc = lastSat (·.2) (fun i x => (i, x.1)) rules k acc := by
  induction rules generalizing k acc with
  | nil => rfl
  | cons x xs ih => exact ih _ _

theorem Placement.selectRule_eq {α : Type} (scope : α → Bool) (rules : List α) (k : Nat) (acc : Option (Nat × α)) :
    Placement.selectRule scope rules k acc = lastSat scope Prod.mk rules k acc := by
  induction rules generalizing k acc with
  | nil => rfl
  | cons x xs ih => exact ih _ _

end SlocModel
