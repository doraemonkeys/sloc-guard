/-!
  Facts about core's lists that the proofs need and core does not state.
-/
namespace List

/-! ### elements by index: membership, `set`, `++ [a]` -/

theorem forall_getElem?_iff {α : Type} {Q : α → Prop} {l : List α} :
    (∀ (j : Nat) r, l[j]? = some r → Q r) ↔ ∀ r ∈ l, Q r :=
  ⟨fun h r hr => (List.mem_iff_getElem?.1 hr).elim fun j hj => h j r hj,
   fun h _ r hr => h r (List.mem_of_getElem? hr)⟩

theorem forall_set {α : Type} {P : Nat → α → Prop} {l : List α} {p : Nat} {v : α}
    (hv : P p v) (hl : ∀ q x, q ≠ p → l[q]? = some x → P q x) :
    ∀ q x, (l.set p v)[q]? = some x → P q x := by
  intro q x h
  by_cases e : p = q
  · subst e
    rw [List.getElem?_set_self'] at h
    cases hl : l[p]? with
    | none => simp [hl] at h
    | some y => simp [hl] at h; exact h ▸ hv
  · rw [List.getElem?_set_ne e] at h
    exact hl q x (fun e' => e e'.symm) h

theorem forall_concat {α : Type} {P : Nat → α → Prop} {l : List α} {a : α}
    (hl : ∀ j x, l[j]? = some x → P j x) (ha : P l.length a) : ∀ j x, (l ++ [a])[j]? = some x → P j x := by
  intro j x h
  rcases Nat.lt_or_ge j l.length with hlt | hge
  · exact hl j x (List.getElem?_append_left hlt ▸ h)
  · rw [List.getElem?_append_right hge, List.getElem?_singleton] at h
    split at h
    · rename_i h0
      cases h
      exact Nat.le_antisymm (Nat.le_of_sub_eq_zero h0) hge ▸ ha
    · cases h

theorem forall_mem_set {α : Type} {Q : α → Prop} {l : List α} {i : Nat} {v : α}
    (hl : ∀ x ∈ l, Q x) (hv : Q v) : ∀ x ∈ l.set i v, Q x := by
  intro x hx
  rcases List.mem_or_eq_of_mem_set hx with hx | rfl
  · exact hl x hx
  · exact hv

/-! ### `all` over a conjunction -/

theorem all_and_left {α : Type} {p q : α → Bool} {l : List α}
    (h : l.all (fun c => p c && q c) = true) : ∀ c ∈ l, p c = true :=
  fun c hc => (Bool.and_eq_true _ _ ▸ List.all_eq_true.mp h c hc).1

theorem all_and_right {α : Type} {p q : α → Bool} {l : List α}
    (h : l.all (fun c => p c && q c) = true) : l.all q = true :=
  List.all_eq_true.mpr fun c hc => (Bool.and_eq_true _ _ ▸ List.all_eq_true.mp h c hc).2

/-! ### `if`, `find?`, `Nodup`, prefix codes -/

theorem length_ite_le {α : Type} {c : Prop} [Decidable c] {l₁ l₂ : List α} {n : Nat}
    (h₁ : l₁.length ≤ n) (h₂ : l₂.length ≤ n) : (if c then l₁ else l₂).length ≤ n := by
  split <;> assumption

theorem find?_reverse_spec {α : Type} (p : α → Bool) (l : List α) (a : α) :
    l.reverse.find? p = some a ↔
      ∃ pre post, l = pre ++ a :: post ∧ p a = true ∧ ∀ x ∈ post, p x = false := by
  rw [List.find?_eq_some_iff_append]
  constructor
  · rintro ⟨ha, as, bs, h, hall⟩
    refine ⟨bs.reverse, as.reverse, ?_, ha, fun x hx => by simpa using hall x (List.mem_reverse.mp hx)⟩
    rw [List.reverse_eq_iff.mp h]; simp
  · rintro ⟨pre, post, rfl, ha, hall⟩
    exact ⟨ha, post.reverse, pre.reverse, by simp, fun x hx => by simpa using hall x (List.mem_reverse.mp hx)⟩

theorem eq_of_nodup_map {α β : Type} (f : α → β) {l : List α} (hd : (l.map f).Nodup) :
    ∀ ⦃a⦄, a ∈ l → ∀ ⦃b⦄, b ∈ l → f a = f b → a = b :=
  List.Pairwise.forall_of_forall_of_flip (R := fun a b => f a = f b → a = b) (fun _ _ _ => rfl)
    (hd.of_map f fun _ _ h e => absurd e h) (hd.of_map f fun _ _ h e => absurd e.symm h)

/-- a code whose words are non-empty and none a prefix of another decodes uniquely -/
theorem flatMap_injective_of_prefix_free {α β : Type} (f : α → List β) (hne : ∀ x, f x ≠ [])
    (hpf : ∀ x y, f x <+: f y → x = y) : ∀ a b : List α, a.flatMap f = b.flatMap f → a = b
  | [], [], _ => rfl
  | [], y :: ys, h => absurd (List.append_eq_nil_iff.1 h.symm).1 (hne y)
  | x :: xs, [], h => absurd (List.append_eq_nil_iff.1 h).1 (hne x)
  | x :: xs, y :: ys, h => by
    rw [List.flatMap_cons, List.flatMap_cons] at h
    have e : x = y :=
      (List.prefix_or_prefix_of_prefix (List.prefix_append _ _) (h ▸ List.prefix_append _ _)).elim
        (fun p => (hpf y x p).symm) (hpf x y)
    subst e
    rw [flatMap_injective_of_prefix_free f hne hpf xs ys (List.append_cancel_left h)]

/-- grouping by a key: the groups, taken over a duplicate-free list of all keys, are the list
    rearranged -/
theorem flatMap_filter_perm {α β : Type} [DecidableEq β] (f : α → β) :
    ∀ (keys : List β) (l : List α), keys.Nodup → (∀ x ∈ l, f x ∈ keys) →
      (keys.flatMap fun k => l.filter (f · = k)).Perm l
  | [], [], _, _ => .refl _
  | [], x :: _, _, h => nomatch h x mem_cons_self
  | k :: ks, l, hn, h => by
    rw [nodup_cons] at hn
    -- without the first group, `l` is grouped by `ks` as before
    have ih := flatMap_filter_perm f ks (l.filter fun x => !decide (f x = k)) hn.2 fun x hx => by
      rw [mem_filter, Bool.not_eq_true', decide_eq_false_iff_not] at hx
      exact (mem_cons.1 (h x hx.1)).resolve_left hx.2
    rw [flatMap_def, map_congr_left fun k' hk' => ?rest, ← flatMap_def] at ih
    · exact (ih.append_left _).trans (filter_append_perm _ l)
    · rw [filter_filter]
      refine filter_congr fun x _ => Bool.and_eq_left_iff_imp.2 fun e => ?_
      rw [of_decide_eq_true e, Bool.not_eq_true', decide_eq_false_iff_not]
      exact fun e' => hn.1 (e' ▸ hk')

/-! ### folds that count, and sums -/

/-- a counter that every step raises by `h x` ends at its start plus the sum of the `h x` -/
theorem foldl_counter {α β : Type} {step : β → α → β} (π : β → Nat) {h : α → Nat}
    (hs : ∀ g x, π (step g x) = π g + h x) :
    ∀ (l : List α) (g : β), π (l.foldl step g) = π g + (l.map h).sum
  | [], g => rfl
  | x :: l, g => by
    rw [List.foldl_cons, foldl_counter π hs l, hs, List.map_cons, List.sum_cons, Nat.add_assoc]

theorem sum_map_filter {α : Type} (p : α → Bool) (f : α → Nat) : ∀ l : List α,
    (l.map fun x => if p x then f x else 0).sum = ((l.filter p).map f).sum
  | [] => rfl
  | x :: l => by
    rw [List.map_cons, List.sum_cons, sum_map_filter p f l, List.filter_cons]
    cases p x <;> simp

theorem sum_map_indicator {α : Type} (p : α → Bool) (l : List α) :
    (l.map fun x => if p x then 1 else 0).sum = (l.filter p).length := by
  rw [sum_map_filter p fun _ => 1, List.map_const', List.sum_replicate_nat, Nat.mul_one]

end List
