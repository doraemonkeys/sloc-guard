import SlocModel.Basic.F64
/-!  Lemmas about the exact f64 model: rounding is monotone and fixes representable numbers;
     hence the percentage warn point is monotone in the limit and never exceeds it for
     thresholds in [0,1]. -/
namespace SlocModel.F64

theorem bitlen_le_iff {n k : Nat} : bitlen n ≤ k ↔ n < 2 ^ k := by
  unfold bitlen
  split
  · next h => subst h; exact iff_of_true (Nat.zero_le k) (Nat.pow_pos (by decide))
  · next h => exact Nat.log2_lt h

theorem lt_pow_bitlen (n : Nat) : n < 2 ^ bitlen n := bitlen_le_iff.mp (Nat.le_refl _)

theorem pow_bitlen_le {n : Nat} (h : n ≠ 0) : 2 ^ (bitlen n - 1) ≤ n := by
  rw [bitlen, if_neg h]; exact Nat.log2_self_le h

theorem bitlen_mono {a b : Nat} (h : a ≤ b) : bitlen a ≤ bitlen b :=
  bitlen_le_iff.mpr (Nat.lt_of_le_of_lt h (lt_pow_bitlen b))

/-- round to a multiple of `2^s`: to nearest, ties to the even multiple -/
def rndAt (s n : Nat) : Nat :=
  (if n % 2 ^ s > 2 ^ (s - 1) ∨ (n % 2 ^ s = 2 ^ (s - 1) ∧ n / 2 ^ s % 2 = 1)
    then n / 2 ^ s + 1 else n / 2 ^ s) * 2 ^ s

theorem rndAt_bounds (s n : Nat) :
    n / 2 ^ s * 2 ^ s ≤ rndAt s n ∧ rndAt s n ≤ (n / 2 ^ s + 1) * 2 ^ s := by
  unfold rndAt
  split
  · exact ⟨Nat.mul_le_mul_right _ (Nat.le_succ _), Nat.le_refl _⟩
  · exact ⟨Nat.le_refl _, Nat.mul_le_mul_right _ (Nat.le_succ _)⟩

theorem rndAt_mono {s a b : Nat} (hab : a ≤ b) : rndAt s a ≤ rndAt s b := by
  have hq : a / 2 ^ s ≤ b / 2 ^ s := Nat.div_le_div_right hab
  rcases Nat.lt_or_eq_of_le hq with hlt | heq
  · exact Nat.le_trans (rndAt_bounds s a).2
      (Nat.le_trans (Nat.mul_le_mul_right _ hlt) (rndAt_bounds s b).1)
  · -- same multiple below: the remainders are ordered, and rounding up is monotone in the remainder
    have hr : a % 2 ^ s ≤ b % 2 ^ s := by
      rw [← Nat.div_add_mod a (2 ^ s), ← Nat.div_add_mod b (2 ^ s), heq] at hab
      exact Nat.le_of_add_le_add_left hab
    unfold rndAt
    rw [heq]
    apply Nat.mul_le_mul_right
    split
    · next hup =>
      rw [if_pos]
      · exact Nat.le_refl _
      · rcases hup with h1 | ⟨h1, h2⟩
        · exact Or.inl (Nat.lt_of_lt_of_le h1 hr)
        · -- a tie goes above half or stays a tie
          rcases Nat.lt_or_eq_of_le (h1 ▸ hr) with h3 | h3
          · exact Or.inl h3
          · exact Or.inr ⟨h3.symm, h2⟩
    · split
      · exact Nat.le_succ _
      · exact Nat.le_refl _

/-- rounding to a multiple of `2^s` fixes the multiples of `2^s`, so those of any higher power -/
theorem rndAt_mul {s k : Nat} (h : s ≤ k) (m : Nat) : rndAt s (m * 2 ^ k) = m * 2 ^ k := by
  have hpos : 0 < 2 ^ s := Nat.pow_pos (by decide)
  have hhalf : 0 < 2 ^ (s - 1) := Nat.pow_pos (by decide)
  rw [← Nat.pow_sub_mul_pow 2 h, ← Nat.mul_assoc]
  unfold rndAt
  -- the remainder is 0, neither above the midpoint nor on it
  rw [Nat.mul_mod_left, Nat.mul_div_cancel _ hpos,
    if_neg (not_or.mpr ⟨Nat.not_lt_zero _, fun h => Nat.ne_of_lt hhalf h.1⟩)]

theorem rndAt_pow {s k : Nat} (h : s ≤ k) : rndAt s (2 ^ k) = 2 ^ k :=
  Nat.one_mul (2 ^ k) ▸ rndAt_mul h 1

/-- `rnd` drops the bits beyond the 53rd; for a shorter number that is rounding to a multiple of
    `2^0`, which does nothing -/
theorem rnd_eq (n : Nat) : rnd n = rndAt (bitlen n - P) n := by
  by_cases h : bitlen n ≤ P
  · have h0 := rndAt_mul (Nat.le_refl 0) n
    rw [Nat.pow_zero, Nat.mul_one] at h0
    rw [Nat.sub_eq_zero_of_le h, h0]
    exact if_pos h
  · exact if_neg h

theorem rnd_fix {n : Nat} (h : bitlen n ≤ P) : rnd n = n := if_pos h

/-! `2^(bitlen n - 1) ≤ n < 2^bitlen n`, and both powers are multiples of the unit to which `rnd n`
    rounds: rounding fixes them and is monotone, so it does not cross them. -/

theorem pow_le_rnd {n : Nat} (h : n ≠ 0) : 2 ^ (bitlen n - 1) ≤ rnd n := by
  rw [rnd_eq]
  exact rndAt_pow (Nat.sub_le_sub_left (by decide : 1 ≤ P) _) ▸ rndAt_mono (pow_bitlen_le h)

theorem rnd_le_pow (n : Nat) : rnd n ≤ 2 ^ bitlen n := by
  rw [rnd_eq]
  exact rndAt_pow (Nat.sub_le _ _) ▸ rndAt_mono (Nat.le_of_lt (lt_pow_bitlen n))

theorem rnd_bounds (n : Nat) (h : P < bitlen n) :
    2 ^ (bitlen n - 1) ≤ rnd n ∧ rnd n ≤ 2 ^ bitlen n :=
  ⟨pow_le_rnd (by intro h0; subst h0; exact absurd h (by decide)), rnd_le_pow n⟩

theorem rnd_mono {a b : Nat} (hab : a ≤ b) : rnd a ≤ rnd b := by
  rcases Nat.lt_or_eq_of_le (bitlen_mono hab) with hlt | heq
  · -- a shorter number stays below the power of two that `rnd b` cannot go under
    have hb : b ≠ 0 := by intro h0; subst h0; exact Nat.not_lt_zero _ hlt
    exact Nat.le_trans (rnd_le_pow a) (Nat.le_trans
      (Nat.pow_le_pow_right (by decide) (Nat.le_sub_one_of_lt hlt)) (pow_le_rnd hb))
  · rw [rnd_eq, rnd_eq, heq]
    exact rndAt_mono hab

/-- a number with at most 53 significant bits followed by zeros is representable -/
theorem rnd_fix_shift (m k : Nat) (hm : m < 2 ^ P) : rnd (m * 2 ^ k) = m * 2 ^ k := by
  -- `m * 2^k < 2^(P + k)`, so at most `k` bits are dropped
  have hlt : m * 2 ^ k < 2 ^ (P + k) := by
    rw [Nat.pow_add]; exact Nat.mul_lt_mul_of_pos_right hm (Nat.pow_pos (by decide))
  rw [rnd_eq]
  exact rndAt_mul (Nat.sub_le_iff_le_add'.mpr (bitlen_le_iff.mpr hlt)) m

theorem ceilDiv_mono {a b c : Nat} (h : a ≤ b) : ceilDiv a c ≤ ceilDiv b c :=
  Nat.div_le_div_right (Nat.sub_le_sub_right (Nat.add_le_add_right h c) 1)

theorem ceilDiv_mul (a c : Nat) (hc : 0 < c) : ceilDiv (a * c) c = a := by
  unfold ceilDiv
  rw [Nat.add_sub_assoc hc, Nat.mul_comm, Nat.mul_add_div hc, Nat.div_eq_of_lt (Nat.sub_lt hc Nat.one_pos),
    Nat.add_zero]

theorem pctUnits_mono {l l' u u' : Nat} (hl : l ≤ l') (hu : u ≤ u') : pctUnits l u ≤ pctUnits l' u' :=
  Nat.le_min.mpr ⟨Nat.le_trans (Nat.min_le_left _ _)
    (ceilDiv_mono (rnd_mono (Nat.mul_le_mul (rnd_mono hl) hu))), Nat.min_le_right _ _⟩

theorem pctUnits_mono_units (l : Nat) {u u' : Nat} (h : u ≤ u') :
    pctUnits l u ≤ pctUnits l u' := pctUnits_mono (Nat.le_refl l) h

theorem one_eq : one = 2 ^ 1074 := rfl
theorem one_pos : 0 < one := by rw [one_eq]; exact Nat.pow_pos (by decide)

/-- For thresholds in [0,1] and limits that fit a double exactly the warn point is ≤ limit. -/
theorem pctUnits_le_limit {l u : Nat} (hl : l < 2 ^ P) (hu : u ≤ one) :
    pctUnits l u ≤ l := by
  have h1 : pctUnits l one = min l usizeMax := by
    unfold pctUnits
    rw [rnd_fix (bitlen_le_iff.mpr hl), one_eq, rnd_fix_shift l 1074 hl, ← one_eq,
      ceilDiv_mul l one one_pos]
  exact Nat.le_trans (pctUnits_mono (Nat.le_refl l) hu) (h1 ▸ Nat.min_le_left _ _)

/-! In the two proofs below `decode bits` is made a variable and the `if` on the sign is rewritten
    away: left to compare `pctUnits l u` with the unreduced `if`, the kernel evaluates into `rnd`. -/

theorem pct_mono_limit {l l' : Nat} (bits : Nat) (h : l ≤ l') : pct l bits ≤ pct l' bits := by
  unfold pct
  generalize decode bits = d
  cases d with
  | nan => exact Nat.le_refl 0
  | inf neg =>
    cases neg with
    | true => exact Nat.le_refl 0
    | false =>
      by_cases h0 : l = 0
      · rw [if_pos h0]; exact Nat.zero_le _
      · rw [if_neg h0, if_neg (Nat.ne_of_gt (Nat.lt_of_lt_of_le (Nat.pos_of_ne_zero h0) h))]
        exact Nat.le_refl _
  | fin neg u =>
    cases neg with
    | true => exact Nat.le_refl 0
    | false =>
      simp only [Bool.false_eq_true, if_false]
      exact pctUnits_mono h (Nat.le_refl u)

theorem pct_le_limit (l bits : Nat) (hl : l < 2 ^ P) (ht : inUnit bits = true) :
    pct l bits ≤ l := by
  unfold pct; unfold inUnit at ht
  generalize decode bits = d at ht
  cases d with
  | nan => cases ht
  | inf neg => cases ht
  | fin neg u =>
    cases neg with
    | true => exact Nat.zero_le l
    | false =>
      simp only [Bool.false_eq_true, if_false]
      exact pctUnits_le_limit hl (of_decide_eq_true ht)

end SlocModel.F64
