/-!
  Test vectors are written with string literals (`"a.rs".toList`) and closed by evaluation.
-/

/-- In a closed goal `"…".toList` makes the kernel decode the literal's UTF-8 bytes one character
    at a time, which costs more than running the model on the result. A literal is `String.ofList`
    of its characters, so `String.toList_ofList` rewrites each one to the list itself; after this
    tactic `decide +kernel` evaluates the model only. Used where the literals are long enough for
    that to matter; literals inside a definition have to be exposed by `unfold` first. -/
macro "char_lists" : tactic => `(tactic| repeat rw [String.toList_ofList])
