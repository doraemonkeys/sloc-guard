import SlocModel.GitDiff
/-!
  The recursive tree comparison of `GitDiff.lean` computes the difference of the flat views
  (`compareTrees_spec`, for Props/C19).  Facts about the flat view are proved by `Node.induct`
  (through the entries of a directory), the model's own recursions are followed by `Tree.induct`;
  a path determines the entry of a level it lies below (`flat_below`), so the comparison is
  specified entry by entry (`Level`), as what each step adds to the accumulator (`Adds`).
-/
namespace SlocModel.GitDiff

/-! names are unique within every tree (git guarantees it) -/
mutual
def wfNode : Node → Bool
  | .tree t => wfTree t
  | _ => true
def wfTree : Tree → Bool
  | .nil => true
  | .cons name n rest => !rest.hasName name && wfNode n && wfTree rest
end

def Tree.entries : Tree → List (Name × Node)
  | .nil => []
  | .cons name n rest => (name, n) :: rest.entries

theorem wfTree_cons {name : Name} {n : Node} {rest : Tree} :
    wfTree (.cons name n rest) = true ↔
      rest.hasName name = false ∧ wfNode n = true ∧ wfTree rest = true := by
  simp only [wfTree, Bool.and_eq_true, Bool.not_eq_true', and_assoc]

/-- induction over a git tree: along the entries of a level, and into each entry that is a
    directory -/
theorem Tree.induct {P : Tree → Prop} (nil : P .nil)
    (cons : ∀ name n rest, (∀ t, n = .tree t → P t) → P rest → P (.cons name n rest)) :
    ∀ t, P t :=
  Tree.rec (motive_1 := fun n => ∀ t, n = .tree t → P t) (motive_2 := P)
    (fun _ _ _ h => nomatch h) (fun _ _ h => nomatch h) (fun _ _ h => nomatch h)
    (fun _ ih _ h => Node.tree.inj h ▸ ih) nil cons

/-- induction over git objects: what holds of every entry of a directory passes to the directory -/
theorem Node.induct {Q : Node → Prop} (blob : ∀ id x, Q (.blob id x)) (link : ∀ id, Q (.link id))
    (commit : ∀ id, Q (.commit id)) (tree : ∀ t, (∀ nm n, (nm, n) ∈ t.entries → Q n) → Q (.tree t)) :
    ∀ n, Q n :=
  Node.rec (motive_1 := Q) (motive_2 := fun t => ∀ nm n, (nm, n) ∈ t.entries → Q n)
    blob link commit tree (fun _ _ h => nomatch h)
    (fun _ _ _ hn hrest nm m h => by
      rcases List.mem_cons.1 h with h | h
      · cases h; exact hn
      · exact hrest nm m h)

/-! ### looking a name up, through the entries of the level -/

theorem hasName_iff : ∀ (t : Tree) (nm : Name), t.hasName nm = true ↔ ∃ n, (nm, n) ∈ t.entries
  | .nil, nm => by simp [Tree.hasName, Tree.entries]
  | .cons name n rest, nm => by
    simp only [Tree.hasName, Tree.entries, Bool.or_eq_true, decide_eq_true_eq, List.mem_cons,
      Prod.mk.injEq, hasName_iff rest nm, exists_or, exists_and_left, exists_eq, and_true]
    rw [eq_comm]

theorem mem_entries_of_find (t : Tree) (nm : Name) (n : Node) (h : t.find nm = some n) :
    (nm, n) ∈ t.entries := by
  revert h
  fun_induction Tree.find nm t <;> intro h
  next => cases h  -- no entries
  next => cases h; exact List.mem_cons_self ..  -- the first entry is `nm`
  next ih => exact List.mem_cons_of_mem _ (ih h)  -- it has another name

theorem find_of_mem_entries : ∀ (t : Tree) (nm : Name) (n : Node), wfTree t = true → (nm, n) ∈ t.entries →
    t.find nm = some n
  | .nil, _, _, _, h => nomatch h
  | .cons name x rest, nm, n, hw, h => by
    obtain ⟨hname, -, hrest⟩ := wfTree_cons.1 hw
    rw [Tree.find]
    rcases List.mem_cons.1 h with h | h
    · cases h; exact if_pos rfl
    · -- names are unique: `nm` occurs in `rest`, so it is not `name`
      rw [if_neg fun e => by rw [e, (hasName_iff rest nm).2 ⟨n, h⟩] at hname; cases hname]
      exact find_of_mem_entries rest nm n hrest h

theorem find_none_of_not_hasName : ∀ (t : Tree) (nm : Name), t.hasName nm = false → t.find nm = none :=
  fun t nm h => Option.eq_none_iff_forall_ne_some.2 fun n hf => by
    rw [(hasName_iff t nm).2 ⟨n, mem_entries_of_find t nm n hf⟩] at h; cases h

/-! ### the flat view through the entries of one level -/

theorem flatTree_eq (t : Tree) (pre : Path) :
    flatTree t pre = t.entries.flatMap fun e => flatNode e.2 (pre ++ [e.1]) := by
  induction t using Tree.induct with
  | nil => rfl
  | cons name n rest _ ih => rw [flatTree, Tree.entries, List.flatMap_cons, ih]

theorem mem_flatTree (t : Tree) (pre : Path) {x : Path × Nat} :
    x ∈ flatTree t pre ↔ ∃ nm n, (nm, n) ∈ t.entries ∧ x ∈ flatNode n (pre ++ [nm]) := by
  simp only [flatTree_eq, List.mem_flatMap, Prod.exists]

theorem blobsOfTree_eq_flatMap (t : Tree) (pre : Path) :
    blobsOfTree t pre = t.entries.flatMap fun e => blobsOfNode e.2 (pre ++ [e.1]) := by
  induction t using Tree.induct with
  | nil => rfl
  | cons name n rest _ ih => rw [blobsOfTree, Tree.entries, List.flatMap_cons, ih]

theorem blobsOfTree_mem : ∀ (t : Tree) (pre : Path) (p : Path),
    p ∈ blobsOfTree t pre ↔ ∃ nm n, (nm, n) ∈ t.entries ∧ p ∈ blobsOfNode n (pre ++ [nm]) := by
  intro t pre p
  simp only [blobsOfTree_eq_flatMap, List.mem_flatMap, Prod.exists]

/-- `collect_all_blob_paths` lists exactly the paths of the flat view -/
theorem blobsOfNode_eq (n : Node) : ∀ (q : Path), blobsOfNode n q = (flatNode n q).map (·.1) := by
  induction n using Node.induct with
  | tree t ih =>
    intro q
    rw [blobsOfNode, flatNode, blobsOfTree_eq_flatMap, flatTree_eq, List.map_flatMap]
    exact congrArg List.flatten (List.map_congr_left fun e he => ih e.1 e.2 he _)
  | _ => intro _; rfl

theorem mem_blobsOfNode_flat (n : Node) (q p : Path) :
    p ∈ blobsOfNode n q ↔ ∃ id, (p, id) ∈ flatNode n q := by
  simp only [blobsOfNode_eq, List.mem_map, Prod.exists, exists_and_right, exists_eq_right]

theorem mem_blobsOfTree_flat (t : Tree) (q p : Path) :
    p ∈ blobsOfTree t q ↔ ∃ id, (p, id) ∈ flatTree t q :=
  mem_blobsOfNode_flat (.tree t) q p

/-! ### every path below a node extends the node's own path -/

theorem flatNode_prefix (n : Node) : ∀ {q : Path} {x : Path × Nat}, x ∈ flatNode n q → ∃ s, x.1 = q ++ s := by
  induction n using Node.induct with
  | blob => intro q x h; simp only [flatNode, List.mem_singleton] at h; exact ⟨[], by rw [h, List.append_nil]⟩
  | link => intro _ _ h; cases h
  | commit => intro _ _ h; cases h
  | tree t ih =>
    intro q x h
    obtain ⟨nm, n, hm, hx⟩ := (mem_flatTree t q).1 h
    obtain ⟨s, hs⟩ := ih nm n hm hx
    exact ⟨nm :: s, by rw [hs, List.append_assoc]; rfl⟩

theorem flatTree_ne_self (t : Tree) (q : Path) (id : Nat) : (q, id) ∉ flatTree t q := by
  intro h
  obtain ⟨nm, n, -, hx⟩ := (mem_flatTree t q).1 h
  obtain ⟨s, hs⟩ := flatNode_prefix n hx
  have := congrArg List.length hs
  simp at this

theorem blobsOfTree_ne_self (t : Tree) (q : Path) : q ∉ blobsOfTree t q := by
  rw [mem_blobsOfTree_flat]; rintro ⟨id, h⟩; exact flatTree_ne_self t q id h

theorem name_unique {pre : Path} {nm nm' : Name} {n n' : Node} {p : Path} {i j : Nat}
    (hx : (p, i) ∈ flatNode n (pre ++ [nm])) (hy : (p, j) ∈ flatNode n' (pre ++ [nm'])) : nm = nm' := by
  obtain ⟨s, hs⟩ := flatNode_prefix n hx
  obtain ⟨s', hs'⟩ := flatNode_prefix n' hy
  have := hs.symm.trans hs'
  simp only [List.append_assoc, List.cons_append, List.nil_append] at this
  exact (List.cons.inj (List.append_cancel_left this)).1

/-! ### the entry a name leads to, seen through the flat view -/

def flatOpt : Option Node → Path → List (Path × Nat)
  | none, _ => []
  | some b, q => flatNode b q

def wfOpt : Option Node → Bool
  | none => true
  | some b => wfNode b

theorem mem_flatOpt {o : Option Node} {q : Path} {x : Path × Nat} :
    x ∈ flatOpt o q ↔ ∃ b, o = some b ∧ x ∈ flatNode b q := by
  cases o <;> simp [flatOpt]

theorem wfOpt_find (t : Tree) (hw : wfTree t = true) (nm : Name) : wfOpt (t.find nm) = true := by
  fun_induction Tree.find nm t
  next => rfl  -- no entries
  next => exact (wfTree_cons.1 hw).2.1  -- the first entry is `nm`
  next ih => exact ih (wfTree_cons.1 hw).2.2  -- it has another name

theorem flatOpt_find {t : Tree} {nm : Name} {pre : Path} {y : Path × Nat}
    (h : y ∈ flatOpt (t.find nm) (pre ++ [nm])) : y ∈ flatTree t pre := by
  obtain ⟨b, hf, hy⟩ := mem_flatOpt.1 h
  exact (mem_flatTree t pre).2 ⟨nm, b, mem_entries_of_find t nm b hf, hy⟩

/-- in a well-formed tree a file below the name `nm` is a file of the entry found under `nm`
    (`hx` only says that the path goes through `nm`); the converse is `flatOpt_find` -/
theorem flat_below {t : Tree} (hw : wfTree t = true) {pre : Path} {nm : Name} {n : Node} {p : Path}
    {i j : Nat} (hx : (p, i) ∈ flatNode n (pre ++ [nm])) (h : (p, j) ∈ flatTree t pre) :
    (p, j) ∈ flatOpt (t.find nm) (pre ++ [nm]) := by
  obtain ⟨nm', b, hm, hy⟩ := (mem_flatTree t pre).1 h
  cases name_unique hy hx
  rw [find_of_mem_entries t _ b hw hm]; exact hy

/-! ### equal object ids mean equal content -/

theorem treeEq_flat (s : Tree) : ∀ (t : Tree) (pre : Path), treeEq s t = true →
    flatTree s pre = flatTree t pre := by
  induction s using Tree.induct with
  | nil => intro t pre h; cases t with | nil => rfl | cons _ _ _ => simp [treeEq] at h
  | cons n1 x1 r1 ihn ihr =>
    intro t pre h
    cases t with
    | nil => simp [treeEq] at h
    | cons n2 x2 r2 =>
      simp only [treeEq, Bool.and_eq_true, decide_eq_true_eq] at h
      obtain ⟨⟨⟨rfl, hm⟩, ho⟩, hr⟩ := h
      simp only [flatTree, ihr r2 pre hr]
      congr 1
      -- equal ids of the same mode: the same file, or directories equal by induction
      cases x1 <;> cases x2 <;>
        simp only [oidEq, modeEq, decide_eq_true_eq, Bool.false_eq_true] at ho hm <;>
        simp only [flatNode, ho]
      exact ihn _ rfl _ _ ho

theorem sameEntry_flat (b n : Node) (q : Path) (h : sameEntry b n = true) :
    flatNode b q = flatNode n q := by
  cases b <;> cases n <;> simp [sameEntry, oidEq, modeClass, isBlob] at h <;> simp only [flatNode, h]
  exact treeEq_flat _ _ q h

/-! ### the comparison computes the flat difference -/

/-- a regular file of the target that the base does not have with the same content -/
def ChangedSpec (B T : List (Path × Nat)) (p : Path) : Prop := ∃ id, (p, id) ∈ T ∧ (p, id) ∉ B
/-- a regular file of the base that is no regular file of the target -/
def DeletedSpec (B T : List (Path × Nat)) (p : Path) : Prop := (∃ id, (p, id) ∈ B) ∧ ¬ ∃ id, (p, id) ∈ T

theorem changedSpec_self (F : List (Path × Nat)) (p : Path) : ¬ ChangedSpec F F p := by
  rintro ⟨id, h1, h2⟩; exact h2 h1
theorem deletedSpec_self (F : List (Path × Nat)) (p : Path) : ¬ DeletedSpec F F p := by
  rintro ⟨h1, h2⟩; exact h2 h1

theorem changedSpec_of_disjoint {B T : List (Path × Nat)} (h : ∀ p i j, (p, i) ∈ B → (p, j) ∈ T → False)
    (p : Path) : ChangedSpec B T p ↔ ∃ id, (p, id) ∈ T :=
  ⟨fun ⟨id, ht, _⟩ => ⟨id, ht⟩, fun ⟨id, ht⟩ => ⟨id, ht, fun hb => h p id id hb ht⟩⟩

theorem deletedSpec_of_disjoint {B T : List (Path × Nat)} (h : ∀ p i j, (p, i) ∈ B → (p, j) ∈ T → False)
    (p : Path) : DeletedSpec B T p ↔ ∃ id, (p, id) ∈ B :=
  ⟨fun ⟨hb, _⟩ => hb, fun ⟨id, hb⟩ => ⟨⟨id, hb⟩, fun ⟨j, ht⟩ => h p id j hb ht⟩⟩

/-- `acc'` is `acc` with exactly the paths of `C` added to the changed ones and those of `D` to the
    deleted ones -/
def Adds (acc acc' : Acc) (C D : Path → Prop) : Prop :=
  ∀ p, (p ∈ acc'.changed ↔ p ∈ acc.changed ∨ C p) ∧ (p ∈ acc'.deleted ↔ p ∈ acc.deleted ∨ D p)

theorem Adds.trans {a b c : Acc} {C D C' D' : Path → Prop} (h : Adds a b C D) (h' : Adds b c C' D') :
    Adds a c (fun p => C p ∨ C' p) (fun p => D p ∨ D' p) := fun p => by
  rw [(h' p).1, (h' p).2, (h p).1, (h p).2, or_assoc, or_assoc]; exact ⟨Iff.rfl, Iff.rfl⟩

theorem Adds.congr {a b : Acc} {C D C' D' : Path → Prop} (h : Adds a b C D) (hC : ∀ p, C p ↔ C' p)
    (hD : ∀ p, D p ↔ D' p) : Adds a b C' D' := fun p => by
  rw [← hC, ← hD]; exact h p

theorem Adds.same (acc : Acc) {F : List (Path × Nat)} : Adds acc acc (ChangedSpec F F) (DeletedSpec F F) :=
  fun p => by simp [changedSpec_self, deletedSpec_self]

theorem Adds.disjoint (acc : Acc) {B T : List (Path × Nat)} (h : ∀ p i j, (p, i) ∈ B → (p, j) ∈ T → False) :
    Adds acc { changed := acc.changed ++ T.map (·.1), deleted := acc.deleted ++ B.map (·.1) }
      (ChangedSpec B T) (DeletedSpec B T) := fun p => by
  simp only [changedSpec_of_disjoint h, deletedSpec_of_disjoint h, List.mem_append, List.mem_map, Prod.exists,
    exists_and_right, exists_eq_right, and_self]

/-- the two cases in which `cmpNode` looks at the content; in every other one the entry has
    changed its kind -/
def sameKind : Node → Node → Bool
  | .blob _ _, .blob _ _ => true
  | .tree _, .tree _ => true
  | _, _ => false

/-- a file, a directory and a link or submodule at the same place share no regular file -/
theorem flat_disjoint (b n : Node) (q : Path) (hk : sameKind b n = false) (p : Path) (i j : Nat)
    (hb : (p, i) ∈ flatNode b q) (hn : (p, j) ∈ flatNode n q) : False := by
  cases b <;> cases n <;> simp only [sameKind, reduceCtorEq] at hk <;>
    simp only [flatNode, List.not_mem_nil, List.mem_singleton, Prod.mk.injEq] at hb hn
  · exact flatTree_ne_self _ q j (hb.1 ▸ hn)
  · exact flatTree_ne_self _ q i (hn.1 ▸ hb)

/-- a change of kind removes every file of the old entry and adds every file of the new one -/
theorem cmpNode_kindChange (b n : Node) (q : Path) (acc : Acc) (hs : sameEntry b n = false)
    (hk : sameKind b n = false) :
    cmpNode (some b) n q acc =
      { changed := acc.changed ++ blobsOfNode n q, deleted := acc.deleted ++ blobsOfNode b q } := by
  rw [cmpNode.eq_def]; simp only [hs, Bool.false_eq_true, if_false]
  cases b <;> cases n <;> simp only [sameKind, reduceCtorEq] at hk <;>
    simp only [blobsOfNode, List.append_nil]

theorem cmpNode_same (b n : Node) (q : Path) (acc : Acc) (hs : sameEntry b n = true) :
    cmpNode (some b) n q acc = acc := by
  rw [cmpNode.eq_def]; simp only [hs, if_true]

theorem deletedOnly_eq (base target : Tree) (pre : Path) :
    deletedOnly base target pre = base.entries.flatMap fun e =>
      if target.hasName e.1 then [] else blobsOfNode e.2 (pre ++ [e.1]) := by
  induction base using Tree.induct with
  | nil => rfl
  | cons name n rest _ ih => rw [deletedOnly, Tree.entries, List.flatMap_cons, ih]

theorem mem_deletedOnly (base target : Tree) (pre p : Path) :
    p ∈ deletedOnly base target pre ↔
      ∃ nm b, (nm, b) ∈ base.entries ∧ target.hasName nm = false ∧
        ∃ id, (p, id) ∈ flatNode b (pre ++ [nm]) := by
  simp only [deletedOnly_eq, List.mem_flatMap, Prod.exists, ← mem_blobsOfNode_flat]
  refine exists_congr fun nm => exists_congr fun b => and_congr_right fun _ => ?_
  cases target.hasName nm <;> simp

/-- what the entries of one target level contribute, each against the base entry of its name -/
def Level (S : List (Path × Nat) → List (Path × Nat) → Path → Prop) (base ts : Tree) (pre p : Path) :
    Prop :=
  ∃ nm n, (nm, n) ∈ ts.entries ∧ S (flatOpt (base.find nm) (pre ++ [nm])) (flatNode n (pre ++ [nm])) p

theorem level_cons (S : List (Path × Nat) → List (Path × Nat) → Path → Prop) (base : Tree) (nm : Name)
    (n : Node) (rest : Tree) (pre p : Path) :
    Level S base (.cons nm n rest) pre p ↔
      S (flatOpt (base.find nm) (pre ++ [nm])) (flatNode n (pre ++ [nm])) p ∨ Level S base rest pre p := by
  simp only [Level, Tree.entries, List.mem_cons, Prod.mk.injEq, or_and_right, exists_or, and_assoc,
    exists_and_left, exists_eq_left]

theorem level_changed (base ts : Tree) (hb : wfTree base = true) (pre p : Path) :
    Level ChangedSpec base ts pre p ↔ ChangedSpec (flatTree base pre) (flatTree ts pre) p := by
  constructor
  · rintro ⟨nm, n, hm, id, ht, hnb⟩
    exact ⟨id, (mem_flatTree ts pre).2 ⟨nm, n, hm, ht⟩, fun h => hnb (flat_below hb ht h)⟩
  · rintro ⟨id, ht, hnb⟩
    obtain ⟨nm, n, hm, hx⟩ := (mem_flatTree ts pre).1 ht
    exact ⟨nm, n, hm, id, hx, fun h => hnb (flatOpt_find h)⟩

theorem level_deleted (base ts : Tree) (hb : wfTree base = true) (ht : wfTree ts = true) (pre p : Path) :
    (Level DeletedSpec base ts pre p ∨ p ∈ deletedOnly base ts pre) ↔
      DeletedSpec (flatTree base pre) (flatTree ts pre) p := by
  constructor
  · rintro (⟨nm, n, hm, ⟨id, hbn⟩, hn⟩ | h)
    · -- below a name that both trees have
      refine ⟨⟨id, flatOpt_find hbn⟩, fun ⟨id', h'⟩ => hn ⟨id', ?_⟩⟩
      obtain ⟨b, -, hy⟩ := mem_flatOpt.1 hbn
      have := flat_below ht hy h'
      rwa [find_of_mem_entries ts nm n ht hm] at this
    · -- below a name that only the base has
      obtain ⟨nm, b, hm, hhas, id, hbn⟩ := (mem_deletedOnly base ts pre p).1 h
      refine ⟨⟨id, (mem_flatTree base pre).2 ⟨nm, b, hm, hbn⟩⟩, fun ⟨id', h'⟩ => ?_⟩
      have := flat_below ht hbn h'
      rw [find_none_of_not_hasName ts nm hhas] at this
      cases this
  · rintro ⟨⟨id, hb'⟩, hnot⟩
    obtain ⟨nm, b, hm, hbn⟩ := (mem_flatTree base pre).1 hb'
    cases hh : ts.hasName nm with
    | true =>
      obtain ⟨n, hmn⟩ := (hasName_iff ts nm).1 hh
      refine Or.inl ⟨nm, n, hmn, ⟨id, ?_⟩,
        fun ⟨id', h'⟩ => hnot ⟨id', (mem_flatTree ts pre).2 ⟨nm, n, hmn, h'⟩⟩⟩
      rw [find_of_mem_entries base nm b hb hm]; exact hbn
    | false =>
      exact Or.inr ((mem_deletedOnly base ts pre p).2 ⟨nm, b, hm, hh, id, hbn⟩)

/-- one entry against the base entry of its name, given the comparison of the directories below -/
theorem cmpNode_adds (o : Option Node) (n : Node) (q : Path) (acc : Acc)
    (ih : ∀ bt tt, n = .tree tt → wfTree bt = true → wfTree tt = true →
      Adds acc (cmpEntries bt tt q acc) (Level ChangedSpec bt tt q) (Level DeletedSpec bt tt q))
    (ho : wfOpt o = true) (hn : wfNode n = true) :
    Adds acc (cmpNode o n q acc) (ChangedSpec (flatOpt o q) (flatNode n q))
      (DeletedSpec (flatOpt o q) (flatNode n q)) := by
  cases o with
  | none =>
    have := Adds.disjoint acc (B := []) (T := flatNode n q) (fun _ _ _ h _ => nomatch h)
    simpa only [cmpNode, flatOpt, blobsOfNode_eq, List.map_nil, List.append_nil] using this
  | some b =>
    cases hs : sameEntry b n with
    | true => rw [cmpNode_same b n q acc hs, flatOpt, sameEntry_flat b n q hs]; exact Adds.same acc
    | false =>
      cases hk : sameKind b n with
      | false =>
        rw [cmpNode_kindChange b n q acc hs hk, blobsOfNode_eq, blobsOfNode_eq]
        exact Adds.disjoint acc (flat_disjoint b n q hk)
      | true =>
        -- `sameKind b n = true` leaves two of the sixteen pairs: two files, two directories
        match b, n, hk with
        | .blob a' x', .blob a x, _ =>
          -- not the same entry: the ids differ
          have hne : a' ≠ a := fun e => by simp [sameEntry, oidEq, modeClass, isBlob, e] at hs
          intro p
          simp only [cmpNode, hs, Bool.false_eq_true, if_false, flatOpt, flatNode, ChangedSpec,
            DeletedSpec, List.mem_append, List.mem_singleton, Prod.mk.injEq]
          exact ⟨or_congr_right ⟨fun h => ⟨a, ⟨h, rfl⟩, fun h' => hne h'.2.symm⟩, fun ⟨_, h, _⟩ => h.1⟩,
            ⟨Or.inl, fun h => h.elim id fun ⟨⟨_, h, _⟩, h2⟩ => absurd ⟨a, h, rfl⟩ h2⟩⟩
        | .tree bt, .tree tt, _ =>
          intro p
          have ih := ih bt tt rfl ho hn p
          simp only [cmpNode, hs, Bool.false_eq_true, if_false, flatOpt, flatNode, List.mem_append]
          exact ⟨ih.1.trans (or_congr_right (level_changed bt tt ho q p)),
            by rw [ih.2, or_assoc, level_deleted bt tt ho hn q p]⟩

theorem cmpEntries_adds (base ts : Tree) (pre : Path) (acc : Acc) (hb : wfTree base = true)
    (ht : wfTree ts = true) :
    Adds acc (cmpEntries base ts pre acc) (Level ChangedSpec base ts pre) (Level DeletedSpec base ts pre) := by
  induction ts using Tree.induct generalizing base pre acc with
  | nil => intro p; simp [cmpEntries, Level, Tree.entries]
  | cons nm n rest ihn ihr =>
    obtain ⟨-, hn, hrest⟩ := wfTree_cons.1 ht
    have hN := cmpNode_adds (base.find nm) n (pre ++ [nm]) acc (fun bt tt h => ihn tt h bt _ acc)
      (wfOpt_find base hb nm) hn
    exact (hN.trans (ihr base pre _ hb hrest)).congr (fun p => (level_cons ..).symm)
      (fun p => (level_cons ..).symm)

theorem cmpNode_spec : ∀ (n : Node) (o : Option Node) (q : Path) (acc : Acc),
    wfNode n = true → wfOpt o = true → ∀ p,
    (p ∈ (cmpNode o n q acc).changed ↔ p ∈ acc.changed ∨ ChangedSpec (flatOpt o q) (flatNode n q) p) ∧
    (p ∈ (cmpNode o n q acc).deleted ↔ p ∈ acc.deleted ∨ DeletedSpec (flatOpt o q) (flatNode n q) p) :=
  fun n o q acc hn ho => cmpNode_adds o n q acc (fun bt tt _ => cmpEntries_adds bt tt q acc) ho hn

theorem compareTrees_spec (base target : Tree) (hb : wfTree base = true) (ht : wfTree target = true)
    (p : Path) :
    (p ∈ (compareTrees base target).changed ↔ ChangedSpec (flatTree base []) (flatTree target []) p) ∧
    (p ∈ (compareTrees base target).deleted ↔ DeletedSpec (flatTree base []) (flatTree target []) p) := by
  have h := cmpEntries_adds base target [] { changed := [], deleted := [] } hb ht p
  simp only [compareTrees, List.mem_append, h.1, h.2, List.not_mem_nil, false_or]
  exact ⟨level_changed base target hb [] p, level_deleted base target hb ht [] p⟩

end SlocModel.GitDiff
