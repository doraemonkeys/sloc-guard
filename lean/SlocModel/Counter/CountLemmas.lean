import SlocModel.Counter.Count
/-!
  The loop of `count` (`classifyLines`) one line at a time, and the relation `Runs` that says what
  a stretch of lines does to the per-file state.  Theorems about programs are proved against
  `Runs`: its rules never mention the line counter `seen` nor the `Option` of `classifyLines`.
-/
namespace SlocModel.Counter

theorem classifyLines_cons (syn : Syntax) (l : List Char) (ls : List (List Char)) (seen : Nat)
    (st : St) :
    classifyLines syn (l :: ls) seen st =
      if seen < Generated.directiveScanLines && hasIgnoreFile syn l then none
      else (classifyLines syn ls (seen + 1) (processLine syn l st).2).map
        ((processLine syn l st).1 :: ·) := by
  rw [classifyLines]
  split
  · rfl
  · obtain ⟨c, st'⟩ := processLine syn l st
    dsimp only
    cases classifyLines syn ls (seen + 1) st' <;> rfl

/-- the lines `xs` are classified `cs` and take the counter from `st` to `st'`; none of them is an
    ignore-file directive -/
inductive Runs (syn : Syntax) : List (List Char) → St → List LineClass → St → Prop
  | nil (st : St) : Runs syn [] st [] st
  | cons {l ls st c st₁ cs st'} : processLine syn l st = (c, st₁) → hasIgnoreFile syn l = false →
      Runs syn ls st₁ cs st' → Runs syn (l :: ls) st (c :: cs) st'

namespace Runs
variable {syn : Syntax}

theorem single {l st c st'} (h : processLine syn l st = (c, st')) (hi : hasIgnoreFile syn l = false) :
    Runs syn [l] st [c] st' := cons h hi (nil _)

theorem append {a b st ca s₁ cb s₂} (ha : Runs syn a st ca s₁) (hb : Runs syn b s₁ cb s₂) :
    Runs syn (a ++ b) st (ca ++ cb) s₂ := by
  induction ha with
  | nil => exact hb
  | cons h hi _ ih => exact cons h hi (ih hb)

theorem flatMap {α : Type} {f : α → List (List Char)} {g : α → List LineClass} {st : St}
    {p : List α} (h : ∀ x ∈ p, Runs syn (f x) st (g x) st) :
    Runs syn (p.flatMap f) st (p.flatMap g) st := by
  induction p with
  | nil => exact nil st
  | cons x r ih =>
    rw [List.forall_mem_cons] at h
    exact h.1.append (ih h.2)

theorem map {g : List Char → LineClass} {st : St} {ls : List (List Char)}
    (h : ∀ l ∈ ls, processLine syn l st = (g l, st) ∧ hasIgnoreFile syn l = false) :
    Runs syn ls st (ls.map g) st := by
  induction ls with
  | nil => exact nil st
  | cons x r ih =>
    rw [List.forall_mem_cons] at h
    exact cons h.1.1 h.1.2 (ih h.2)

/-- what the loop of `count` does on such a stretch -/
theorem classify {xs st cs st'} (h : Runs syn xs st cs st') (rest : List (List Char)) (seen : Nat) :
    classifyLines syn (xs ++ rest) seen st =
      (classifyLines syn rest (seen + xs.length) st').map (cs ++ ·) := by
  induction h generalizing seen with
  | nil => simp
  | cons hp hi _ ih =>
    rw [List.cons_append, classifyLines_cons, hi, Bool.and_false, if_neg Bool.false_ne_true, hp, ih,
      Option.map_map, List.length_cons, Nat.add_right_comm, Nat.add_assoc]
    rfl

theorem classify_all {xs st cs st'} (h : Runs syn xs st cs st') (seen : Nat) :
    classifyLines syn xs seen st = some cs := by
  have := h.classify [] seen
  rwa [List.append_nil, classifyLines, Option.map_some, List.append_nil] at this

end Runs
end SlocModel.Counter
