import SlocModel.Counter.Detect
/-!
  What the scanning functions of `Detect.lean` do in one step, for the proofs that would otherwise
  unfold them.
-/
namespace SlocModel.Counter

/-- the triple-quote branch of the string tracker fires only on three equal quote characters,
    consumes the three, and only outside a string or inside the string they delimit -/
theorem tripleHit_some {st : SkState} {c : Char} {rest : List Char} {r : SkState × Nat}
    (h : tripleHit st c rest = some r) :
    ∃ td t, tripleOf c = some td ∧ rest = c :: c :: t ∧ r.2 = 3 ∧ (st = none ∨ st = some td) := by
  revert h
  -- every guard on the way to a `some` must have held
  fun_cases tripleHit st c rest <;> intro h <;> cases h
  next c1 c2 t he td htd hn =>  -- outside a string
    rw [Bool.and_eq_true, decide_eq_true_eq, decide_eq_true_eq] at he
    obtain ⟨rfl, rfl⟩ := he
    exact ⟨td, t, htd, rfl, rfl, Or.inl (Option.isNone_iff_eq_none.mp hn)⟩
  next c1 c2 t he td htd _ hs =>  -- inside the string that these quotes end
    rw [Bool.and_eq_true, decide_eq_true_eq, decide_eq_true_eq] at he
    obtain ⟨rfl, rfl⟩ := he
    exact ⟨td, t, htd, rfl, rfl, Or.inr hs⟩

theorem tripleOf_isTriple {c : Char} {td : Delim} (h : tripleOf c = some td) :
    td.isTriple = true := by
  revert h
  fun_cases tripleOf c <;> intro h <;> cases h
  next => rfl  -- `'`
  next => rfl  -- `"`

theorem go_nil (needle : List Char) (sr qn : Bool) (k : Nat) (st : SkState) (i : Nat) :
    findOutsideGo needle sr qn k st i [] = none := by
  cases k <;> rfl

theorem go_zero (needle : List Char) (sr qn : Bool) (st : SkState) (i : Nat) (c : Char)
    (rest : List Char) :
    findOutsideGo needle sr qn 0 st i (c :: rest) =
      match (if sr && st.isNone && c = 'r' then trySkipRaw (c :: rest) else none) with
      | some k => findOutsideGo needle sr qn (k - 1) st (i + 1) rest
      | none =>
        if st.isNone && needle.isPrefixOf (c :: rest) then some i
        else findOutsideGo needle sr qn ((skStep st c rest (!qn)).2 - 1) (skStep st c rest (!qn)).1
          (i + 1) rest := by
  rfl

theorem go_succ (needle : List Char) (sr qn : Bool) (k : Nat) (st : SkState) (i : Nat) (c : Char)
    (rest : List Char) :
    findOutsideGo needle sr qn (k + 1) st i (c :: rest) =
      findOutsideGo needle sr qn k st (i + 1) rest :=
  rfl

end SlocModel.Counter
