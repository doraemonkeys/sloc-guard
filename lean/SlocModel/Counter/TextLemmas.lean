import SlocModel.Counter.Grammar
/-!
  Facts about the text primitives (`trim`, `lines`, `find`) used by the token-level theorems.
-/
namespace SlocModel.Counter

theorem trimEnd_cons (c : Char) (l : List Char) (hc : isWs c = false) :
    trimEnd (c :: l) = c :: trimEnd l := by
  unfold trimEnd
  rw [List.reverse_cons, List.dropWhile_append, List.dropWhile_cons_of_neg (by simp [hc])]
  split
  · rename_i h
    rw [List.isEmpty_iff.mp h]
    rfl
  · simp

theorem trim_all_ws (ws : List Char) (h : ∀ c ∈ ws, isWs c = true) : trim ws = [] := by
  unfold trim trimStart
  rw [← List.append_nil ws, List.dropWhile_append_of_pos h]
  rfl

theorem trim_ws_cons (ws : List Char) (c : Char) (t : List Char)
    (h : ∀ x ∈ ws, isWs x = true) (hc : isWs c = false) :
    trim (ws ++ c :: t) = c :: trimEnd t := by
  unfold trim trimStart
  rw [List.dropWhile_append_of_pos h, List.dropWhile_cons_of_neg (by simp [hc]), trimEnd_cons c t hc]

theorem head?_trim (l : List Char) : (trim l).head? = l.find? (fun c => !isWs c) := by
  induction l with
  | nil => rfl
  | cons a r ih =>
    unfold trim trimStart
    cases ha : isWs a with
    | true =>
      rw [List.dropWhile_cons_of_pos ha, List.find?_cons_of_neg (by simp [ha])]
      exact ih
    | false =>
      rw [List.dropWhile_cons_of_neg (by simp [ha]), trimEnd_cons a r ha,
        List.find?_cons_of_pos (by simp [ha])]
      rfl

theorem stripCR_id (r : List Char) (h : ∀ c ∈ r, c ≠ '\r') : stripCR r = r := by
  fun_cases stripCR r
  next => exact absurd rfl (h '\r' (by simp))  -- a `\r` in front
  next => rfl

theorem splitLinesAux_line (l rest cur : List Char) (h : ∀ c ∈ l, c ≠ '\n') :
    splitLinesAux (l ++ '\n' :: rest) cur =
      (stripCR (l.reverse ++ cur)).reverse :: splitLinesAux rest [] := by
  induction l generalizing cur with
  | nil => simp [splitLinesAux]
  | cons a r ih =>
    have ha : a ≠ '\n' := h a (by simp)
    rw [List.cons_append, splitLinesAux, if_neg ha, ih (a :: cur) (fun x hx => h x (by simp [hx]))]
    simp

theorem splitLines_join (ls : List (List Char)) (h : ∀ l ∈ ls, l.all lineChar = true) :
    splitLines (ls.flatMap (· ++ ['\n'])) = ls := by
  unfold splitLines
  induction ls with
  | nil => simp [splitLinesAux]
  | cons l r ih =>
    have hl : ∀ c ∈ l, c ≠ '\n' ∧ c ≠ '\r' := fun c hc => by
      simpa [lineChar] using List.all_eq_true.mp (h l List.mem_cons_self) c hc
    rw [List.flatMap_cons, List.append_assoc, List.singleton_append,
      splitLinesAux_line l _ [] fun c hc => (hl c hc).1,
      stripCR_id _ fun c hc => (hl c (by simpa using hc)).2,
      ih fun x hx => h x (List.mem_cons_of_mem _ hx)]
    simp

theorem findSub_none_shift (n : List Char) (l : List Char) (i j : Nat)
    (h : findSub n l i = none) : findSub n l j = none := by
  revert h
  fun_induction findSub n l i generalizing j <;> intro h
  next => cases h  -- at the end, the empty needle is found
  next hh => simp [findSub, hh]  -- at the end
  next => cases h  -- found here
  next hh ih => rw [findSub, if_neg hh]; exact ih _ h  -- not here

theorem containsSub_occurs (n a b : List Char) : containsSub n (a ++ (n ++ b)) = true := by
  unfold containsSub
  generalize 0 = i
  induction a generalizing i with
  | nil =>
    cases h : n ++ b with
    | nil => simp [findSub, List.append_eq_nil_iff.mp h]
    | cons c cs =>
      rw [List.nil_append, findSub,
        if_pos (h ▸ List.isPrefixOf_iff_prefix.mpr (List.prefix_append n b))]
      rfl
  | cons c cs ih =>
    rw [List.cons_append, findSub]
    split
    · rfl
    · exact ih (i + 1)

end SlocModel.Counter
