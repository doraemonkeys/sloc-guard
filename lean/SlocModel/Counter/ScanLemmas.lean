import SlocModel.Counter.Grammar
import SlocModel.Counter.DetectLemmas
/-!
  The needle search of `CommentDetector` (`find_outside_string`) on the texts of the C-family
  grammar: what the string tracker does with one character of a literal, where the search finds
  nothing, and the relation `Steps` for walking over a prefix without a hit.
-/
namespace SlocModel.Counter

theorem skStep_outside_plain (c : Char) (rest : List Char) (hq : notQuote c = true) :
    skStep none c rest true = (none, 1) := by
  simp only [notQuote, Bool.and_eq_true, bne_iff_ne] at hq
  simp [skStep, tripleHit, singleStep, singleOf, hq.1, hq.2]

/-- the delimiter recorded for a quote character is not a triple quote and is closed by exactly
    that character -/
theorem delimOf_props (q : Char) (hq : isQuote q = true) :
    singleOf q = some (delimOf q) ∧ (delimOf q).isTriple = false ∧
      ∀ c, (delimOf q).matchesSingle c = decide (c = q) := by
  simp only [isQuote, Bool.or_eq_true, beq_iff_eq] at hq
  rcases hq with rfl | rfl <;> exact ⟨rfl, rfl, fun _ => rfl⟩

theorem tripleHit_nontriple {d : Delim} (hd : d.isTriple = false) (c : Char) (rest : List Char) :
    tripleHit (some d) c rest = none := by
  cases h : tripleHit (some d) c rest with
  | none => rfl
  | some r =>
    obtain ⟨td, _, htd, _, _, hs | hs⟩ := tripleHit_some h
    · cases hs
    · cases hs
      rw [tripleOf_isTriple htd] at hd
      cases hd

theorem skStep_inside_plain (q c : Char) {rest : List Char} (hq : isQuote q = true)
    (hc : c ≠ q) (hb : c ≠ '\\') :
    skStep (some (delimOf q)) c rest true = (some (delimOf q), 1) := by
  obtain ⟨_, h2, h3⟩ := delimOf_props q hq
  unfold skStep
  rw [tripleHit_nontriple h2, if_neg (by simp [hb])]
  unfold singleStep
  cases singleOf c <;> simp [h2, h3, hc]

theorem skStep_inside_esc (d : Delim) (c : Char) (rest : List Char) :
    skStep (some d) '\\' (c :: rest) true = (some d, 2) := by
  simp [skStep]

theorem skStep_close (q : Char) (rest : List Char) (hq : isQuote q = true) :
    skStep (some (delimOf q)) q rest true = (none, 1) := by
  obtain ⟨h1, h2, h3⟩ := delimOf_props q hq
  have hb : q ≠ '\\' := by
    rintro rfl
    cases hq
  unfold skStep
  rw [tripleHit_nontriple h2]
  simp [hb, singleStep, h1, h2, h3]

theorem skStep_open (q : Char) {rest : List Char} (hq : isQuote q = true)
    (hnt : ∀ t, rest ≠ q :: q :: t) : skStep none q rest true = (some (delimOf q), 1) := by
  obtain ⟨h1, _, _⟩ := delimOf_props q hq
  have hth : tripleHit none q rest = none := by
    cases h : tripleHit none q rest with
    | none => rfl
    | some r =>
      obtain ⟨_, t, _, hr, _⟩ := tripleHit_some h
      exact absurd hr (hnt t)
  unfold skStep
  rw [hth]
  simp [singleStep, h1]

theorem go_zero_plain {needle : List Char} {qn : Bool} {st : SkState} {i : Nat} {c : Char}
    {rest : List Char} (hp : (st.isNone && needle.isPrefixOf (c :: rest)) = false) :
    findOutsideGo needle false qn 0 st i (c :: rest) =
      findOutsideGo needle false qn ((skStep st c rest (!qn)).2 - 1) (skStep st c rest (!qn)).1
        (i + 1) rest := by
  rw [go_zero]; simp [hp]

/-- where the needle does not occur the search finds nothing -/
theorem go_none_of_findSub (needle : List Char) (qn : Bool) :
    ∀ (tail : List Char) (k : Nat) (st : SkState) (i j : Nat),
      findSub needle tail j = none → findOutsideGo needle false qn k st i tail = none := by
  intro tail k st i j
  fun_induction findSub needle tail j generalizing k st i <;> intro h
  next => cases h  -- at the end, the empty needle is found
  next => exact go_nil ..  -- at the end
  next => cases h  -- found here
  next hp ih =>  -- not here
    cases k with
    | succ k => rw [go_succ]; exact ih k st (i + 1) h
    | zero =>
      rw [go_zero_plain (by simp [hp])]
      exact ih _ _ _ h

/-- over text without quote characters the search is the plain substring search -/
theorem go_noquote (h : Char) (nt : List Char) :
    ∀ (text : List Char) (i : Nat), (∀ c ∈ text, notQuote c = true) →
      findOutsideGo (h :: nt) false false 0 none i text = findSub (h :: nt) text i := by
  intro text
  induction text with
  | nil => intro i _; simp [go_nil, findSub]
  | cons c cs ih =>
    intro i hs
    unfold findSub
    cases hp : (h :: nt).isPrefixOf (c :: cs) with
    | true => rw [go_zero]; simp [hp]
    | false =>
      rw [go_zero_plain (by simp [hp]), Bool.not_false, skStep_outside_plain c cs (hs c (by simp)),
        if_neg Bool.false_ne_true]
      exact ih (i + 1) fun x hx => hs x (by simp [hx])

/-- the search for `needle`, in string state `st`, walks over `pre` without a hit and is in state
    `st'` behind it (`rest` is what follows: a step may look ahead).  Raw-string skipping and the
    quote-needle mode are off (`skipRaw = quoteNeedle = false`): this serves the C family, not
    Rust raw strings or Python's quote markers. -/
def Steps (needle : List Char) (st : SkState) (pre rest : List Char) (st' : SkState) : Prop :=
  ∀ i, findOutsideGo needle false false 0 st i (pre ++ rest) =
    findOutsideGo needle false false 0 st' (i + pre.length) rest

namespace Steps
variable {needle : List Char}

theorem nil {st : SkState} {rest : List Char} : Steps needle st [] rest st := fun _ => rfl

theorem trans {st s₁ s₂ : SkState} {a b rest : List Char} (ha : Steps needle st a (b ++ rest) s₁)
    (hb : Steps needle s₁ b rest s₂) : Steps needle st (a ++ b) rest s₂ := fun i => by
  rw [List.append_assoc, ha, hb, List.length_append, Nat.add_assoc]

theorem one {st st' : SkState} {c : Char} {rest : List Char}
    (hp : (st.isNone && needle.isPrefixOf (c :: rest)) = false)
    (hs : skStep st c rest true = (st', 1)) : Steps needle st [c] rest st' := fun i => by
  rw [List.singleton_append, go_zero_plain hp, Bool.not_false, hs]
  rfl

theorem esc {d : Delim} (c : Char) {rest : List Char} :
    Steps needle (some d) ['\\', c] rest (some d) := fun i => by
  show findOutsideGo _ _ _ _ _ _ ('\\' :: c :: rest) = _
  rw [go_zero_plain rfl, Bool.not_false, skStep_inside_esc]
  exact go_succ ..

theorem no_hit {h c : Char} (hh : c ≠ h) (nt : List Char) {rest : List Char} :
    ((none : SkState).isNone && (h :: nt).isPrefixOf (c :: rest)) = false := by
  simp [List.isPrefixOf, Ne.symm hh]

theorem safe (h : Char) (nt : List Char) {pre : List Char} (rest : List Char)
    (hs : ∀ c ∈ pre, notQuote c = true ∧ c ≠ h) : Steps (h :: nt) none pre rest none := by
  induction pre with
  | nil => exact nil
  | cons c cs ih =>
    have hc := hs c List.mem_cons_self
    exact (one (no_hit hc.2 nt) (skStep_outside_plain c _ hc.1)).trans
      (ih fun x hx => hs x (List.mem_cons_of_mem _ hx))

theorem body (q : Char) (hq : isQuote q = true) {b : List Item} {rest : List Char}
    (hok : ∀ it ∈ b, it.ok q = true) :
    Steps needle (some (delimOf q)) (renderBody b) rest (some (delimOf q)) := by
  induction b with
  | nil => exact nil
  | cons it b ih =>
    have hb := ih fun x hx => hok x (List.mem_cons_of_mem _ hx)
    have hit := hok it List.mem_cons_self
    cases it with
    | plain c =>
      simp only [Item.ok, Bool.and_eq_true, bne_iff_ne] at hit
      exact (one rfl (skStep_inside_plain q c hq hit.1 hit.2)).trans hb
    | esc c => exact (esc c).trans hb

theorem literal (h : Char) (nt : List Char) (q : Char) (hq : isQuote q = true) (hh : q ≠ h)
    {b : List Item} {rest : List Char} (hok : ∀ it ∈ b, it.ok q = true)
    (hadj : b = [] → rest.head? ≠ some q) : Steps (h :: nt) none (renderLit q b) rest none := by
  refine (one (no_hit hh nt) (skStep_open q hq fun t heq => ?_)).trans
    ((body q hq hok).trans (one rfl (skStep_close q rest hq)))
  -- the opening quote begins no triple quote: `heq` would put `q` at the head of the body, or,
  -- the body being empty, behind the closing quote
  cases b with
  | nil =>
    have heq : q :: rest = q :: q :: t := heq
    exact hadj rfl (by rw [(List.cons.inj heq).2]; rfl)
  | cons it b =>
    have hit := hok it List.mem_cons_self
    cases it with
    | plain c =>
      simp only [Item.ok, Bool.and_eq_true, bne_iff_ne] at hit
      exact hit.1 (List.cons.inj heq).1
    | esc c =>
      have : '\\' = q := (List.cons.inj heq).1
      subst this
      cases hq

end Steps

/-- a well-formed string literal (opening quote, ordinary characters and escapes, closing quote)
    is stepped over as a whole, whatever it contains -/
theorem go_skip_literal (h : Char) (nt : List Char) (q : Char) (hq : isQuote q = true)
    (hh : q ≠ h) (body : List Item) (rest : List Char) (i : Nat)
    (hok : ∀ it ∈ body, it.ok q = true)
    (hadj : body = [] → rest.head? ≠ some q) :
    findOutsideGo (h :: nt) false false 0 none i (renderLit q body ++ rest) =
      findOutsideGo (h :: nt) false false 0 none (i + (renderLit q body).length) rest :=
  Steps.literal h nt q hq hh hok hadj i

end SlocModel.Counter
