import SlocModel.Generated.Consts
/-!
  Model of the baseline pipeline of `check`:
  src/commands/check/check_baseline_ops.rs (`apply_baseline_comparison`,
  `check_baseline_ratchet` / `handle_baseline_ratchet`, `update_baseline_from_results`),
  src/commands/check/check_exit.rs (`determine_exit_code`) and the order in which
  `run_check_with_context` composes them, including the fail-fast trigger.

  A result is what one processed file or one structure finding contributes; file hashing and
  JSON (de)serialisation are parameters (the stored content hash is opaque).
-/
namespace SlocModel.Baseline
open SlocModel

abbrev Key := List Char

inductive Status where
  | passed | warning | failed | grandfathered
  deriving DecidableEq, Repr

/-- `ViolationCategory` as far as the baseline cares -/
inductive Kind where
  | content          -- line-count result of a file
  | files            -- structure: file count of a directory
  | dirs             -- structure: sub-directory count
  | otherStructure   -- depth, placement, naming, sibling …: not baselinable
  deriving DecidableEq, Repr

structure Res where
  path : Key
  status : Status
  kind : Kind
  count : Nat           -- `stats().code`: lines, or the offending count
  deriving DecidableEq, Repr

/-- `BaselineEntry` -/
inductive Entry where
  | content (lines : Nat)
  | structure (isFiles : Bool) (count : Nat)
  deriving DecidableEq, Repr

def Entry.isStructure : Entry → Bool
  | .structure .. => true
  | .content _ => false

/-- the `files` map of a `Baseline` as an association list with unique keys -/
abbrev Base := List (Key × Entry)

def Base.contains (b : Base) (k : Key) : Bool := b.any (fun e => e.1 = k)
def Base.remove (b : Base) (k : Key) : Base := b.filter (fun e => e.1 ≠ k)
/-- `HashMap::insert` -/
def Base.set (b : Base) (k : Key) (e : Entry) : Base := b.remove k ++ [(k, e)]
def Base.keys (b : Base) : List Key := b.map (·.1)

/-- a kind of violation for which `update_baseline_from_results` writes an entry -/
def Kind.recordable : Kind → Bool
  | .otherStructure => false
  | _ => true

/-- `apply_baseline_comparison`: a failed result of a recordable kind whose path has an entry
    becomes grandfathered (fix f5486fc: results of the other kinds are left alone) -/
def apply (rs : List Res) (b : Base) : List Res :=
  rs.map (fun r => if r.status = .failed && r.kind.recordable && b.contains r.path
    then { r with status := .grandfathered } else r)

inductive UpdateMode where
  | all | content | structure | new
  deriving DecidableEq, Repr

def Kind.isStructure : Kind → Bool
  | .content => false
  | _ => true

/-- still violating: failed, or failed-but-grandfathered -/
def Res.violating (r : Res) : Bool := r.status = .failed || r.status = .grandfathered

/-- the entry `update_baseline_from_results` writes for a violating result, if any -/
def entryOf (r : Res) : Option Entry :=
  match r.kind with
  | .content => some (.content r.count)
  | .files => some (.structure true r.count)
  | .dirs => some (.structure false r.count)
  | .otherStructure => none

/-- starting point of an update: `new` keeps every existing entry; `content` / `structure`
    keep the existing entries of the *other* kind; `all` starts empty -/
def updateStart (mode : UpdateMode) (existing : Base) : Base :=
  match mode with
  | .all => []
  | .new => existing
  | .content => existing.filter (fun e => e.2.isStructure)
  | .structure => existing.filter (fun e => !e.2.isStructure)

/-- the mode filter of `update_baseline_from_results` -/
def includes (mode : UpdateMode) (acc : Base) (r : Res) : Bool :=
  match mode with
  | .all => true
  | .content => !r.kind.isStructure
  | .structure => r.kind.isStructure
  | .new => !acc.contains r.path

def updateStep (mode : UpdateMode) (acc : Base) (r : Res) : Base :=
  if r.violating && includes mode acc r then
    match entryOf r with
    | some e => acc.set r.path e
    | none => acc
  else acc

/-- `update_baseline_from_results` -/
def update (mode : UpdateMode) (rs : List Res) (existing : Option Base) : Base :=
  rs.foldl (updateStep mode) (updateStart mode (existing.getD []))

inductive RatchetMode where
  | warn | auto | strict
  deriving DecidableEq, Repr

/-- stale = recorded, evaluated in this run, and no longer violating -/
def stale (b : Base) (rs : List Res) (evaluated : List Key) : List Key :=
  b.keys.filter (fun k => evaluated.contains k && !(rs.any (fun r => r.path = k && r.violating)))

/-- `determine_exit_code` -/
def exitCode (rs : List Res) (warnOnly wae ratchetFailed : Bool) : Int :=
  if warnOnly then Generated.exitSuccess
  else if rs.any (·.status = .failed) || (wae && rs.any (·.status = .warning)) || ratchetFailed
  then Generated.exitThreshold else Generated.exitSuccess

structure Flags where
  baselineGiven : Bool            -- `--baseline <path>` on the command line
  update : Option UpdateMode      -- `--update-baseline[=mode]`
  ratchet : Option RatchetMode    -- flag, else `[baseline] ratchet`
  warnOnly : Bool
  wae : Bool                      -- warnings-as-errors / strict / config
  deriving DecidableEq, Repr

inductive Outcome where
  | done (results : List Res) (disk : Option Base) (exit : Int) (staleReported : List Key)
  | configError                   -- exit 2: `--baseline` names a missing file
  deriving DecidableEq, Repr

/-- 3. only an explicitly named baseline is loaded -/
def loadedOf (disk : Option Base) (f : Flags) : Option Base := if f.baselineGiven then disk else none

/-- 7. grandfather -/
def grandfather (loaded : Option Base) (rs : List Res) : List Res :=
  match loaded with
  | some b => apply rs b
  | none => rs

/-- 7.0.1 stale entries the ratchet looks at (none without a mode or without a loaded baseline) -/
def staleOf (f : Flags) (loaded : Option Base) (rs1 : List Res) (evaluated : List Key) : List Key :=
  match f.ratchet, loaded with
  | some _, some b => stale b rs1 evaluated
  | _, _ => []

/-- `--ratchet=auto`: the in-memory baseline and the file after tightening -/
def afterRatchet (f : Flags) (loaded disk : Option Base) (st : List Key) : Option Base × Option Base :=
  match f.ratchet, loaded with
  | some .auto, some b =>
    if st.isEmpty then (loaded, disk)
    else (some (b.filter (fun e => !st.contains e.1)), some (b.filter (fun e => !st.contains e.1)))
  | _, _ => (loaded, disk)

/-- 7.0.2 `--update-baseline` -/
def afterUpdate (f : Flags) (rs1 : List Res) (loaded' disk' : Option Base) : Option Base :=
  match f.update with
  | some m => some (update m rs1 loaded')
  | none => disk'

/-- steps 3, 7, 7.0.1, 7.0.2 and 10 of `run_check_impl` / `run_check_with_context`.
    `disk` is the baseline file at the effective path (`--baseline` or the default path);
    `rs` are the results before baseline comparison; `evaluated` the paths this run looked at. -/
def run (disk : Option Base) (rs : List Res) (evaluated : List Key) (f : Flags) : Outcome :=
  if f.baselineGiven && disk.isNone && f.update.isNone then .configError else
  let loaded := loadedOf disk f
  let rs1 := grandfather loaded rs
  let st := staleOf f loaded rs1 evaluated
  let ar := afterRatchet f loaded disk st
  .done rs1 (afterUpdate f rs1 ar.1 ar.2)
    (exitCode rs1 f.warnOnly f.wae (f.ratchet = some .strict && !st.isEmpty)) st

/-! ### fail-fast -/

/-- a result that sets the fail-fast flag: a failure the baseline does not grandfather.
    (The guard in `runner.rs` looks at file results, which are line-count results: for them
    `recordable` is true and the condition is `failed ∧ path not recorded`, `triggers_content`.) -/
def triggers (loaded : Option Base) (r : Res) : Bool :=
  r.status = .failed && !(match loaded with
    | some b => r.kind.recordable && b.contains r.path
    | none => false)

theorem triggers_content (loaded : Option Base) (r : Res) (h : r.kind = .content) :
    triggers loaded r = (r.status = .failed && !(match loaded with
      | some b => b.contains r.path
      | none => false)) := by
  unfold triggers; cases loaded <;> simp [h, Kind.recordable]

/-- A set of processed files (given by a keep-mask over the file results) is *admissible* for a
    fail-fast run if files are only skipped after some processed file triggered the flag. -/
def admissible (loaded : Option Base) (files : List Res) (mask : List Bool) : Bool :=
  mask.length = files.length &&
  (mask.all id || (files.zip mask).any (fun p => p.2 && triggers loaded p.1))

/-- `fail_fast` of `run_check_with_context`: the flag or the configuration, and never in a run
    that rewrites the baseline -/
def effectiveFailFast (flagOrConfig : Bool) (f : Flags) : Bool := flagOrConfig && f.update.isNone

def processed (files : List Res) (mask : List Bool) : List Res :=
  (files.zip mask).filterMap (fun p => if p.2 then some p.1 else none)

end SlocModel.Baseline
