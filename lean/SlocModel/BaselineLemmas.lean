import SlocModel.Baseline
/-!
  Lemmas about the baseline pipeline of `SlocModel.Baseline`, shared by C01 and C09–C11: what a
  completed run returns, what grandfathering does to one result, what an update records, and
  what the ratchet removes.
-/
namespace SlocModel.Baseline
open SlocModel

theorem run_done {disk : Option Base} {rs : List Res} {ev : List Key} {f : Flags}
    {rs' : List Res} {d' : Option Base} {e : Int} {st : List Key}
    (h : run disk rs ev f = .done rs' d' e st) :
    rs' = grandfather (loadedOf disk f) rs ∧
    st = staleOf f (loadedOf disk f) rs' ev ∧
    e = exitCode rs' f.warnOnly f.wae (f.ratchet = some .strict && !st.isEmpty) ∧
    d' = afterUpdate f rs' (afterRatchet f (loadedOf disk f) disk st).1
           (afterRatchet f (loadedOf disk f) disk st).2 := by
  revert rs' d' e st
  fun_cases run disk rs ev f <;> rintro _ _ _ _ ⟨⟩
  next => exact ⟨rfl, rfl, rfl, rfl⟩  -- not the configuration error: `run` returns just these

theorem loadedOf_eq_some {disk : Option Base} {f : Flags} {b : Base} (h : loadedOf disk f = some b) :
    f.baselineGiven = true ∧ disk = some b := by
  revert h
  fun_cases loadedOf disk f <;> intro h
  next hg => exact ⟨hg, h⟩
  next => cases h

theorem Kind.recordable_iff {k : Kind} : k.recordable = true ↔ k ≠ .otherStructure := by
  cases k <;> simp [Kind.recordable]

theorem entryOf_isSome (r : Res) : (entryOf r).isSome = r.kind.recordable := by
  unfold entryOf; cases r.kind <;> rfl

/-! ### what grandfathering does to one result

  `grandfather` maps `grandfatherOne` over the results.  It turns some `failed` into
  `grandfathered` and changes nothing else, so whatever reads only path, kind, count and
  `violating` (`update`, `stale`) cannot tell whether it ran; the exit code reads `failed` and
  `warning`. -/

/-- the loaded baseline has an entry that grandfathers `r` should it fail: the condition inside
    `triggers` -/
def masks (loaded : Option Base) (r : Res) : Bool :=
  match loaded with
  | some b => r.kind.recordable && b.contains r.path
  | none => false

def grandfatherOne (loaded : Option Base) (r : Res) : Res :=
  if r.status = .failed && masks loaded r then { r with status := .grandfathered } else r

section
variable (loaded : Option Base) (r : Res) (rs : List Res)

theorem triggers_eq : triggers loaded r = (decide (r.status = .failed) && !masks loaded r) := by
  cases loaded <;> rfl

theorem grandfatherOne_fields :
    (grandfatherOne loaded r).path = r.path ∧ (grandfatherOne loaded r).kind = r.kind ∧
      (grandfatherOne loaded r).count = r.count ∧
      (grandfatherOne loaded r).violating = r.violating := by
  fun_cases grandfatherOne loaded r
  next h =>  -- failed and masked
    rw [Bool.and_eq_true, decide_eq_true_eq] at h
    simp [Res.violating, h.1]
  next => simp

theorem grandfather_eq_map : grandfather loaded rs = rs.map (grandfatherOne loaded) := by
  cases loaded with
  | none =>
    have : grandfatherOne none = id := funext fun r => by simp [grandfatherOne, masks]
    rw [this, List.map_id]; rfl
  | some b =>
    exact List.map_congr_left fun r _ => by simp [grandfatherOne, masks, Bool.and_assoc]

theorem any_failed_grandfather :
    (grandfather loaded rs).any (·.status = .failed) = rs.any (triggers loaded) := by
  rw [grandfather_eq_map, List.any_map]
  refine congrArg rs.any (funext fun r => ?_)
  rw [Function.comp, triggers_eq]; unfold grandfatherOne
  by_cases hf : r.status = .failed <;> cases masks loaded r <;> simp [hf]

theorem any_warning_grandfather :
    (grandfather loaded rs).any (·.status = .warning) = rs.any (·.status = .warning) := by
  rw [grandfather_eq_map, List.any_map]
  refine congrArg rs.any (funext fun r => ?_)
  rw [Function.comp]
  fun_cases grandfatherOne loaded r
  next h =>  -- failed and masked
    rw [Bool.and_eq_true, decide_eq_true_eq] at h
    simp [h.1]
  next => rfl

theorem exitCode_grandfather (warnOnly wae rf : Bool) :
    exitCode (grandfather loaded rs) warnOnly wae rf =
      if warnOnly then Generated.exitSuccess
      else if rs.any (triggers loaded) || (wae && rs.any (·.status = .warning)) || rf
      then Generated.exitThreshold else Generated.exitSuccess := by
  rw [exitCode, any_failed_grandfather, any_warning_grandfather]

theorem update_grandfather (mode : UpdateMode) (existing : Option Base) :
    update mode (grandfather loaded rs) existing = update mode rs existing := by
  have hstep : ∀ acc r, updateStep mode acc (grandfatherOne loaded r) = updateStep mode acc r := by
    intro acc r
    obtain ⟨h1, h2, h3, h4⟩ := grandfatherOne_fields loaded r
    unfold updateStep includes entryOf
    rw [h1, h2, h3, h4]
  unfold update
  rw [grandfather_eq_map, List.foldl_map]
  simp only [hstep]

theorem stale_grandfather (b : Base) (ev : List Key) :
    stale b (grandfather loaded rs) ev = stale b rs ev := by
  simp only [stale, grandfather_eq_map, List.any_map, Function.comp_def,
    (grandfatherOne_fields loaded _).1, (grandfatherOne_fields loaded _).2.2.2]

variable {loaded r rs}

theorem masks_loadedOf_eq_false {disk : Option Base} {f : Flags}
    (h : ∀ b, disk = some b → b.contains r.path = false) : masks (loadedOf disk f) r = false := by
  cases hl : loadedOf disk f with
  | none => rfl
  | some b => simp [masks, h b (loadedOf_eq_some hl).2]

theorem mem_grandfather_of_not_masks (hr : r ∈ rs) (h : masks loaded r = false) :
    r ∈ grandfather loaded rs := by
  rw [grandfather_eq_map]
  exact List.mem_map.mpr ⟨r, hr, by simp [grandfatherOne, h]⟩

/-- a result that triggers passes the baseline unchanged and, unless `--warn-only`, makes the
    run exit 1 whatever else is given -/
theorem run_of_triggers {disk : Option Base} {ev : List Key} {f : Flags} (hr : r ∈ rs)
    (ht : triggers (loadedOf disk f) r = true) (hwo : f.warnOnly = false)
    {rs' : List Res} {d' : Option Base} {e : Int} {st : List Key}
    (hrun : run disk rs ev f = .done rs' d' e st) : r ∈ rs' ∧ e = Generated.exitThreshold := by
  obtain ⟨h1, _, h3, _⟩ := run_done hrun
  rw [h3, h1, hwo, exitCode_grandfather, List.any_eq_true.mpr ⟨r, hr, ht⟩]
  rw [triggers_eq, Bool.and_eq_true, Bool.not_eq_true'] at ht
  exact ⟨mem_grandfather_of_not_masks hr ht.2, rfl⟩

end

theorem set_contains (b : Base) (k k' : Key) (e : Entry) :
    (b.set k e).contains k' = (decide (k' = k) || b.contains k') := by
  by_cases hk : k' = k
  · simp [Base.set, Base.contains, hk]
  · have : ∀ x : Key × Entry, (!decide (x.1 = k) && decide (x.1 = k')) = decide (x.1 = k') := by
      intro x; by_cases hx : x.1 = k' <;> simp [hx, hk]
    simp [Base.set, Base.contains, Base.remove, List.any_filter, this, hk, Ne.symm hk]

section
variable {mode : UpdateMode} {acc : Base} {r : Res} {rs : List Res}

theorem updateStep_keeps {k : Key} (h : acc.contains k = true) :
    (updateStep mode acc r).contains k = true := by
  fun_cases updateStep mode acc r
  next => rw [set_contains, h, Bool.or_true]  -- an entry is set
  next => exact h  -- nothing to record
  next => exact h  -- not included

theorem foldl_updateStep_keeps {k : Key} (h : acc.contains k = true) :
    (rs.foldl (updateStep mode) acc).contains k = true := by
  induction rs generalizing acc with
  | nil => exact h
  | cons r rs ih => exact ih (updateStep_keeps h)

/-- `hi` is an alternative because that is what holds of every accumulator in the `new` mode,
    whose filter is `!acc.contains r.path`; in the `all` mode its left side holds -/
theorem updateStep_records (hv : r.violating = true) (hk : r.kind.recordable = true)
    (hi : includes mode acc r = true ∨ acc.contains r.path = true) :
    (updateStep mode acc r).contains r.path = true := by
  rcases hi with hi | hi
  · rw [← entryOf_isSome, Option.isSome_iff_exists] at hk
    obtain ⟨e, he⟩ := hk
    simp [updateStep, hv, hi, he, set_contains]
  · exact updateStep_keeps hi

theorem foldl_updateStep_records (hr : r ∈ rs) (hv : r.violating = true)
    (hk : r.kind.recordable = true)
    (hi : ∀ acc, includes mode acc r = true ∨ acc.contains r.path = true) :
    (rs.foldl (updateStep mode) acc).contains r.path = true := by
  induction rs generalizing acc with
  | nil => cases hr
  | cons x xs ih =>
    rcases List.mem_cons.mp hr with h | h
    · subst h
      exact foldl_updateStep_keeps (rs := xs) (updateStep_records hv hk (hi acc))
    · exact ih h

end

theorem mem_stale {b : Base} {rs : List Res} {ev : List Key} {k : Key} :
    k ∈ stale b rs ev ↔
      k ∈ b.keys ∧ ev.contains k = true ∧ ∀ r ∈ rs, r.path = k → r.violating = false := by
  simp only [stale, List.mem_filter, Bool.and_eq_true, Bool.not_eq_true', List.any_eq_false,
    decide_eq_true_eq, not_and, Bool.not_eq_true]

theorem afterRatchet_eq_self {f : Flags} {loaded : Option Base}
    (h : f.ratchet = some .auto → loaded = none) (disk : Option Base) (st : List Key) :
    afterRatchet f loaded disk st = (loaded, disk) := by
  unfold afterRatchet
  split
  · next b ha => cases h ha
  · rfl

theorem afterRatchet_auto {f : Flags} (h : f.ratchet = some .auto) (b : Base) (st : List Key) :
    afterRatchet f (some b) (some b) st =
      (some (b.filter (fun e => !st.contains e.1)), some (b.filter (fun e => !st.contains e.1))) := by
  unfold afterRatchet
  simp only [h]
  split
  · -- nothing stale: the filter keeps every entry
    next hst => rw [List.isEmpty_iff.mp hst]; simp [List.filter_eq_self.mpr]
  · rfl

end SlocModel.Baseline
