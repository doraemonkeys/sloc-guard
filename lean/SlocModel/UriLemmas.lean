import SlocModel.Uri
/-!
  Lemmas about `pathToUri` and `decode` (property C20): percent-decoding an encoded path gives its
  bytes back, so the encoding is injective, and the URI holds only unreserved characters, `/`, `%`.
-/
namespace SlocModel.Uri

theorem hexDigit_table :
    ∀ n, n < 16 → hexVal (hexDigit n) = some n ∧ unreserved (hexDigit n) = true := by
  decide +kernel

theorem unreserved_ne_percent (b : Nat) (h : unreserved b = true) : b ≠ 37 := by
  rintro rfl
  cases h

theorem decode_cons_ne (c : Nat) (hc : c ≠ 37) (rest : List Nat) :
    decode (c :: rest) = (decode rest).map (c :: ·) := by
  -- `decode.eq_4`: the equation of `decode`'s last pattern `c :: rest`, with the side conditions
  -- that no earlier pattern (`37 :: h :: l :: rest`, `37 :: _`) applies
  rw [decode.eq_4 c rest (fun _ _ _ e => absurd e hc) hc]
  cases decode rest <;> rfl

theorem decode_percent {h l a b : Nat} {rest r : List Nat} (ha : hexVal h = some a)
    (hb : hexVal l = some b) (hr : decode rest = some r) :
    decode (37 :: h :: l :: rest) = some ((a * 16 + b) :: r) := by
  rw [decode, ha, hb, hr]

theorem decode_encodeByte (b : Nat) (hb : b < 256) (rest r : List Nat) (hr : decode rest = some r) :
    decode (encodeByte b ++ rest) = some (b :: r) := by
  fun_cases encodeByte b
  next hu =>  -- unreserved: the byte itself
    rw [List.singleton_append, decode_cons_ne b (unreserved_ne_percent b hu), hr]; rfl
  next =>  -- `%` and two hex digits
    exact (decode_percent (hexDigit_table _ (Nat.div_lt_of_lt_mul hb)).1
      (hexDigit_table _ (Nat.mod_lt _ (by decide))).1 hr).trans (by rw [Nat.div_add_mod'])

/-- a consumer that percent-decodes the URI gets the path's bytes back, so two different paths
    never share a URI -/
theorem decode_pathToUri (bs : List Nat) (h : ∀ b ∈ bs, b < 256) : decode (pathToUri bs) = some bs := by
  induction bs with
  | nil => rfl
  | cons b bs ih =>
    rw [List.forall_mem_cons] at h
    exact decode_encodeByte b h.1 _ bs (ih h.2)

theorem pathToUri_injective (a b : List Nat) (ha : ∀ x ∈ a, x < 256) (hb : ∀ x ∈ b, x < 256)
    (h : pathToUri a = pathToUri b) : a = b := by
  have h1 := decode_pathToUri a ha
  rw [h, decode_pathToUri b hb] at h1
  exact (Option.some.inj h1).symm

/-- the URI consists of unreserved characters, `/`, and `%` — nothing a URI parser treats specially
    (`?`, `#`, space, `:` …) survives unencoded -/
theorem pathToUri_chars (bs : List Nat) (h : ∀ b ∈ bs, b < 256) :
    ∀ c ∈ pathToUri bs, unreserved c = true ∨ c = 37 := by
  intro c hc
  obtain ⟨b, hb, hcb⟩ := List.mem_flatMap.1 hc
  unfold encodeByte at hcb
  split at hcb
  · next hu => exact .inl (List.mem_singleton.1 hcb ▸ hu)
  · simp only [List.mem_cons, List.not_mem_nil, or_false] at hcb
    rcases hcb with rfl | rfl | rfl
    · exact .inr rfl
    · exact .inl (hexDigit_table _ (Nat.div_lt_of_lt_mul (h b hb))).2
    · exact .inl (hexDigit_table _ (Nat.mod_lt _ (by decide))).2

example : pathToUri [97, 32, 98, 47, 195, 169, 35] = [97, 37, 50, 48, 98, 47, 37, 67, 51, 37, 65, 57, 37, 50, 51] := by decide +kernel

end SlocModel.Uri
