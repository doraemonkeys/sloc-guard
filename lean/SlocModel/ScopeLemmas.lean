import SlocModel.Scope
import SlocModel.Basic.LastMatch
/-!
  Scope and rule selection from pattern texts: what `content.exclude`, `content.extensions` and the
  rule patterns mean for a path, whichever way the walk spelled it.
-/
namespace SlocModel.Scope
open SlocModel.Glob

/-- exactly which files are processed -/
theorem shouldProcess_iff (c : Cfg) (p : List Nat) :
    shouldProcess c p = true ↔
      (∀ e ∈ c.exclude, globIs e (normalizeForMatching p) = false) ∧
      (c.extensions = [] ∨ (∃ x, extension p = some x ∧ x ∈ c.extensions) ∨
        ∃ r ∈ c.rules, globIs r (normalizeForMatching p) = true) := by
  unfold shouldProcess
  cases extension p <;> simp [List.isEmpty_iff]

/-- a file matched by `content.exclude` is never processed, whatever else matches -/
theorem excluded_never_processed (c : Cfg) (p e : List Nat) (he : e ∈ c.exclude)
    (hm : globIs e (normalizeForMatching p) = true) : shouldProcess c p = false := by
  cases h : shouldProcess c p with
  | false => rfl
  | true => rw [((shouldProcess_iff c p).mp h).1 e he] at hm; cases hm

/-- the governing rule is the last rule, in file order, whose pattern matches -/
theorem governingRule_is_last (c : Cfg) (p : List Nat) (i : Nat) :
    governingRule c p = some i ↔
      (∃ r, c.rules[i]? = some r ∧ globIs r (normalizeForMatching p) = true) ∧
      ∀ j r, i < j → c.rules[j]? = some r → globIs r (normalizeForMatching p) = false := by
  rw [governingRule, Threshold.lastMatch, Threshold.lastMatchFrom_eq, lastSat_map, lastSat_eq_some]
  constructor
  · rintro ⟨_, r, ⟨hr, hm, hl⟩, rfl⟩
    exact ⟨⟨r, hr, hm⟩, fun j r' hj => hl j hj r'⟩
  · rintro ⟨⟨r, hr, hm⟩, hl⟩
    exact ⟨i, r, ⟨hr, hm, fun j hj r' => hl j r' hj⟩, rfl⟩

/-- `./x` is normalised like `x` (for an `x` that does not itself begin with `./`) -/
theorem normalize_dot_slash (p : List Nat) (h : stripDot p = p) :
    normalizeForMatching (46 :: 47 :: p) = normalizeForMatching p :=
  (congrArg finish h).symm

theorem extension_dot_slash (p : List Nat) : extension (46 :: 47 :: p) = extension p := by
  simp [extension, fileName, splitOn]

/-- a file is in scope, and governed by the same rule, whether the walk names it `x` or `./x` -/
theorem spelling_independent (c : Cfg) (p : List Nat) (h : stripDot p = p) :
    shouldProcess c (46 :: 47 :: p) = shouldProcess c p ∧
    governingRule c (46 :: 47 :: p) = governingRule c p := by
  unfold shouldProcess governingRule
  rw [normalize_dot_slash p h, extension_dot_slash]
  exact ⟨rfl, rfl⟩

/-- the hypothesis of `spelling_independent` says that the path does not itself start with `./`
    or `.\`; one instance, the path `src/a.rs` -/
example : stripDot [115, 114, 99, 47, 97, 46, 114, 115] = [115, 114, 99, 47, 97, 46, 114, 115] := by decide +kernel

end SlocModel.Scope
