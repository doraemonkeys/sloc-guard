import SlocModel.Report
import SlocModel.Basic.ListLemmas
/-!
  Helper lemmas for Props/C20: insertion sort (permutation, sortedness, uniqueness), the string
  order, character replacement by a table, sums under permutation.
-/
namespace SlocModel.Report

section
variable {α : Type} (le : α → α → Bool)

theorem insertBy_perm (x : α) (l : List α) : (insertBy le x l).Perm (x :: l) := by
  fun_induction insertBy le x l
  next => exact .refl _  -- into the empty list
  next => exact .refl _  -- in front
  next y ys _ ih => exact (ih.cons y).trans (.swap x y ys)  -- further back

theorem sortBy_perm : ∀ l : List α, (sortBy le l).Perm l
  | [] => .refl _
  | x :: xs => (insertBy_perm le x _).trans ((sortBy_perm xs).cons x)

theorem mem_insertBy (x y : α) (l : List α) : y ∈ insertBy le x l ↔ y = x ∨ y ∈ l :=
  (insertBy_perm le x l).mem_iff.trans List.mem_cons

variable (total : ∀ a b, le a b = true ∨ le b a = true)
  (trans : ∀ a b c, le a b = true → le b c = true → le a c = true)
include total trans

theorem insertBy_pairwise (x : α) (l : List α) (h : l.Pairwise (fun a b => le a b = true)) :
    (insertBy le x l).Pairwise (fun a b => le a b = true) := by
  fun_induction insertBy le x l
  next => exact List.pairwise_singleton _ _  -- into the empty list
  next y ys hxy =>  -- in front
    rw [List.pairwise_cons] at h
    refine List.pairwise_cons.2 ⟨fun z hz => ?_, List.pairwise_cons.2 h⟩
    rcases List.mem_cons.1 hz with rfl | hz
    · exact hxy
    · exact trans _ _ _ hxy (h.1 z hz)
  next y ys hxy ih =>  -- further back
    rw [List.pairwise_cons] at h
    refine List.pairwise_cons.2 ⟨fun z hz => ?_, ih h.2⟩
    rcases (mem_insertBy le x z ys).1 hz with rfl | hz
    · exact (total z y).resolve_left hxy
    · exact h.1 z hz

theorem sortBy_pairwise : ∀ l : List α, (sortBy le l).Pairwise (fun a b => le a b = true)
  | [] => .nil
  | x :: xs => insertBy_pairwise le total trans x _ (sortBy_pairwise xs)

/-- sorting two enumerations of the same elements gives the same list, provided the comparison is
    antisymmetric on them -/
theorem sortBy_perm_eq {l₁ l₂ : List α} (hp : l₁.Perm l₂)
    (anti : ∀ a b, a ∈ l₁ → b ∈ l₁ → le a b = true → le b a = true → a = b) :
    sortBy le l₁ = sortBy le l₂ :=
  List.Perm.eq_of_pairwise (le := fun a b => le a b = true)
    (fun a b ha hb => anti a b ((sortBy_perm le l₁).mem_iff.1 ha)
      (hp.mem_iff.2 ((sortBy_perm le l₂).mem_iff.1 hb)))
    (sortBy_pairwise le total trans l₁) (sortBy_pairwise le total trans l₂)
    ((sortBy_perm le l₁).trans (hp.trans (sortBy_perm le l₂).symm))

end

/-- `strLt` is the order core Lean puts on `List Char` (lexicographic, characters by code point),
    so irreflexivity, transitivity, totality … are `List.lt_irrefl`, `List.lt_trans`,
    `List.le_total` … -/
theorem strLt_iff : ∀ a b : List Char, strLt a b = true ↔ a < b
  | [], [] => by simp [strLt]
  | [], _ :: _ => by simp [strLt]
  | _ :: _, [] => by simp [strLt]
  | a :: as, b :: bs => by
    rw [strLt, List.cons_lt_cons_iff, ← strLt_iff as bs]
    show _ ↔ a.toNat < b.toNat ∨ _
    rcases Nat.lt_trichotomy a.toNat b.toNat with h | h | h
    · simp [h]
    · cases Char.toNat_inj.mp h; simp
    · have : a ≠ b := fun e => by subst e; omega
      simp [Nat.lt_asymm h, h, this]

theorem nameLe_iff (a b : Custom) : nameLe a b = true ↔ a.name ≤ b.name := by
  rw [nameLe, Bool.not_eq_true', ← Bool.not_eq_true, strLt_iff]
  exact List.not_lt

theorem groupLe_iff (a b : Group) :
    groupLe a b = true ↔ b.code < a.code ∨ a.code = b.code ∧ a.key ≤ b.key := by
  simp only [groupLe, Bool.or_eq_true, Bool.and_eq_true, decide_eq_true_eq, strLt_iff, gt_iff_lt,
    List.le_iff_lt_or_eq, or_comm]

/-! ### replacing characters by a table: one after the other, and all at once -/

/-- `s.replace(c₁, w₁).replace(c₂, w₂)…` for the entries of the table in order -/
def replaceAll : List (Char × List Char) → List Char → List Char
  | [], s => s
  | (c, w) :: t, s => replaceAll t (replaceChar c w s)

/-- the first entry for `x` decides; a character without entry stays -/
def subst : List (Char × List Char) → Char → List Char
  | [], x => [x]
  | (c, w) :: t, x => if x = c then w else subst t x

theorem subst_cases (t : List (Char × List Char)) (x : Char) :
    (subst t x = [x] ∧ x ∉ t.map Prod.fst) ∨ (x, subst t x) ∈ t := by
  fun_induction subst t x
  next => exact .inl ⟨rfl, nofun⟩  -- no entries
  next => exact .inr List.mem_cons_self  -- the first entry is for `x`
  next c w t h ih =>  -- it is for another character
    rcases ih with ⟨e, hn⟩ | hm
    · exact .inl ⟨e, fun hm => (List.mem_cons.1 hm).elim h hn⟩
    · exact .inr (List.mem_cons_of_mem _ hm)

theorem replaceChar_flatMap (c : Char) (w : List Char) : ∀ s : List Char,
    replaceChar c w s = s.flatMap (fun x => if x = c then w else [x])
  | [] => rfl
  | x :: xs => by
    rw [replaceChar, List.flatMap_cons, ← replaceChar_flatMap c w xs]
    split <;> rfl

theorem flatMap_subst_of_no_key (t : List (Char × List Char)) (w : List Char)
    (h : ∀ p ∈ t, p.1 ∉ w) : w.flatMap (subst t) = w := by
  have hy : ∀ y ∈ w, subst t y = [y] := fun y hy =>
    (subst_cases t y).elim (·.1) fun hm => absurd hy (h _ hm)
  rw [List.flatMap_def, List.map_congr_left hy, ← List.flatMap_def, List.flatMap_singleton']

/-- **sequential replacement is simultaneous substitution** as long as no replacement text contains
    a character that a later entry replaces (why `&` comes first in `html_escape`) -/
theorem replaceAll_eq_flatMap : ∀ (t : List (Char × List Char)),
    t.Pairwise (fun p q => q.1 ∉ p.2) → ∀ s, replaceAll t s = s.flatMap (subst t)
  | [], _, s => (List.flatMap_singleton' s).symm
  | (c, w) :: t, h, s => by
    rw [List.pairwise_cons] at h
    rw [replaceAll, replaceAll_eq_flatMap t h.2, replaceChar_flatMap, List.flatMap_assoc]
    congr 1
    funext x
    rw [subst]
    split
    · exact flatMap_subst_of_no_key t w h.1
    · exact List.flatMap_singleton ..

/-- the substitution is a prefix code (`List.flatMap_injective_of_prefix_free`) when every
    replacement text begins with a replaced character (so none can be taken for a character that
    stays) and none is a prefix of another -/
theorem flatMap_subst_injective (t : List (Char × List Char))
    (hk : ∀ p ∈ t, ∃ q ∈ t, p.2.head? = some q.1)
    (hp : ∀ p ∈ t, ∀ q ∈ t, p.2 <+: q.2 → p = q) (a b : List Char)
    (h : a.flatMap (subst t) = b.flatMap (subst t)) : a = b := by
  have shape : ∀ {y w}, (y, w) ∈ t → ∃ q ∈ t, ∃ r, w = q.1 :: r := fun hy =>
    let ⟨q, hq, e⟩ := hk _ hy
    ⟨q, hq, List.head?_eq_some_iff.1 e⟩
  have lit : ∀ {x y w}, x ∉ t.map Prod.fst → (y, w) ∈ t → ¬ [x] <+: w ∧ ¬ w <+: [x] := by
    intro x y w hx hy
    obtain ⟨q, hq, r, rfl⟩ := shape hy
    have ne : x ≠ q.1 := fun e => hx (e ▸ List.mem_map_of_mem hq)
    exact ⟨fun h => ne (List.singleton_prefix_cons_iff.1 h),
      fun h => ne (List.cons_prefix_cons.1 h).1.symm⟩
  refine List.flatMap_injective_of_prefix_free _ (fun x => ?_) (fun x y h => ?_) a b h
  · rcases subst_cases t x with ⟨e, _⟩ | hx
    · rw [e]; exact List.cons_ne_nil _ _
    · obtain ⟨_, _, _, e⟩ := shape hx
      rw [e]; exact List.cons_ne_nil _ _
  · rcases subst_cases t x with ⟨ex, hx⟩ | hx <;> rcases subst_cases t y with ⟨ey, hy⟩ | hy
    · rw [ex, ey] at h
      exact List.singleton_prefix_cons_iff.1 h
    · exact absurd (ex ▸ h) (lit hx hy).1
    · exact absurd (ey ▸ h) (lit hy hx).2
    · exact congrArg Prod.fst (hp _ hx _ hy h)

/-! ### sums do not depend on the order of the files -/

theorem addFile_comm (g : Group) (x y : FileStat) :
    addFile (addFile g x) y = addFile (addFile g y) x := by
  simp only [addFile, Nat.add_right_comm]

theorem totals_perm (fs₁ fs₂ : List FileStat) (h : fs₁.Perm fs₂) : totals fs₁ = totals fs₂ :=
  h.foldl_eq' (fun x _ y _ g => addFile_comm g x y) _

theorem groupOf_perm (k : List Char) (fs₁ fs₂ : List FileStat) (h : fs₁.Perm fs₂) :
    groupOf k fs₁ = groupOf k fs₂ := by
  unfold groupOf
  rw [totals_perm _ _ (h.filter _)]

end SlocModel.Report
