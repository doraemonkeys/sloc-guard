-- the model
import SlocModel.AtomicWrite
import SlocModel.Baseline
import SlocModel.Basic.F64
import SlocModel.Cache
import SlocModel.Check
import SlocModel.Concurrency
import SlocModel.Counter.Count
import SlocModel.Counter.Detect
import SlocModel.Counter.Grammar
import SlocModel.Counter.Syntax
import SlocModel.Counter.Text
import SlocModel.Extends
import SlocModel.Gate
import SlocModel.GitDiff
import SlocModel.Glob
import SlocModel.PathSpelling
import SlocModel.Placement
import SlocModel.Remote
import SlocModel.Report
import SlocModel.Scope
import SlocModel.Siblings
import SlocModel.Structure
import SlocModel.Threshold
import SlocModel.Toml
import SlocModel.Trend
import SlocModel.Uri
-- tables and constants regenerated from /repo by tools/extract.py
import SlocModel.Generated.Consts
import SlocModel.Generated.Languages
import SlocModel.Generated.Presets
-- lemma modules: what the model's definitions do
import SlocModel.BaselineLemmas
import SlocModel.Basic.F64Lemmas
import SlocModel.Basic.LastMatch
import SlocModel.Basic.ListLemmas
import SlocModel.Basic.Literals
import SlocModel.Counter.CountLemmas
import SlocModel.Counter.DetectLemmas
import SlocModel.Counter.ScanLemmas
import SlocModel.Counter.TextLemmas
import SlocModel.GitDiffLemmas
import SlocModel.GlobLemmas
import SlocModel.ReportLemmas
import SlocModel.ScopeLemmas
import SlocModel.UriLemmas
-- property modules
import SlocModel.Props.C01
import SlocModel.Props.C02
import SlocModel.Props.C02Congr
import SlocModel.Props.C02Grammar
import SlocModel.Props.C02Ignore
import SlocModel.Props.C02IgnoreBlock
import SlocModel.Props.C02NoBlock
import SlocModel.Props.C03
import SlocModel.Props.C04
import SlocModel.Props.C04Grammar
import SlocModel.Props.C05
import SlocModel.Props.C06
import SlocModel.Props.C07
import SlocModel.Props.C08
import SlocModel.Props.C08Below
import SlocModel.Props.C08Targets
import SlocModel.Props.C09
import SlocModel.Props.C10
import SlocModel.Props.C11
import SlocModel.Props.C12
import SlocModel.Props.C13
import SlocModel.Props.C14
import SlocModel.Props.C15
import SlocModel.Props.C16
import SlocModel.Props.C16Flatten
import SlocModel.Props.C17
import SlocModel.Props.C18
import SlocModel.Props.C19
import SlocModel.Props.C20
import SlocModel.Props.C20Html
-- the driver's request handlers
import SlocModel.Driver.AtomicWrite
import SlocModel.Driver.Baseline
import SlocModel.Driver.Cache
import SlocModel.Driver.Check
import SlocModel.Driver.Concurrency
import SlocModel.Driver.Counter
import SlocModel.Driver.Gate
import SlocModel.Driver.GitDiff
import SlocModel.Driver.Glob
import SlocModel.Driver.Grammar
import SlocModel.Driver.PathSpelling
import SlocModel.Driver.Proto
import SlocModel.Driver.Remote
import SlocModel.Driver.Report
import SlocModel.Driver.Scope
import SlocModel.Driver.Structure
import SlocModel.Driver.Threshold
import SlocModel.Driver.Toml
import SlocModel.Driver.Trend
import SlocModel.Driver.Uri
